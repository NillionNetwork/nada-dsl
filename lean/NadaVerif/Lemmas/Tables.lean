/-
The tables `compile` emits (C01, C08, C09): each is a duplicate-free list of store records, closed under
operand references, containing its roots (the outputs / the return operation) and nothing that is not
reachable from them.  One invariant (`Walk`) through `traverse`, `compileOutputs`, `emitFunctions`.
-/
import NadaVerif.Lemmas.Loops

namespace NadaVerif.Lemmas
open NadaVerif NadaVerif.Spec

def HasKey (t : Table) (k : Id) : Prop := ∃ e ∈ t, e.1 = k

theorem any_iff_hasKey {t : Table} {k : Id} : (t.any (·.1 = k)) = true ↔ HasKey t k := by
  simp [HasKey, List.any_eq_true]

theorem has_iff (t : Table) (k : Id) : Table.has t k = true ↔ HasKey t k := any_iff_hasKey

theorem HasKey.mono {t t' : Table} {k : Id} (h : HasKey t k) (ht : ∀ e ∈ t, e ∈ t') : HasKey t' k :=
  let ⟨e, he, hk⟩ := h; ⟨e, ht e he, hk⟩

theorem hasKey_append {t : Table} {x : Id × AstOp} {k : Id} : HasKey (t ++ [x]) k ↔ HasKey t k ∨ x.1 = k := by
  simp [HasKey, or_and_right, exists_or]

theorem keys_nodup_append {t : Table} {k : Id} {op : AstOp} (h : (keys t).Nodup) (hk : ¬ HasKey t k) :
    (keys (t ++ [(k, op)])).Nodup := by
  simp only [keys, List.map_append, List.map_cons, List.map_nil]
  exact nodup_append_singleton h fun ha => let ⟨e, he, hek⟩ := List.mem_map.1 ha; hk ⟨e, he, hek⟩

/-- `k` is reachable from `roots` by following operand references of store records -/
inductive Reach (st : St) (roots : List Id) : Id → Prop where
  | root {k} : k ∈ roots → Reach st roots k
  | step {k c op} : Reach st roots k → st.lookup k = some op → c ∈ op.children → Reach st roots c

theorem Reach.mono {st : St} {r1 r2 : List Id} (h : ∀ k ∈ r1, Reach st r2 k) {k : Id} (hk : Reach st r1 k) :
    Reach st r2 k := by
  induction hk with
  | root hm => exact h _ hm
  | step _ hl hc ih => exact .step ih hl hc

def FromStore (st : St) (t : Table) : Prop := ∀ e ∈ t, st.lookup e.1 = some e.2

/-- A table under construction by a walk from `R` with `s` still to visit: every operand of a filed record is filed
or pending, no id is filed twice, the entries are store records, and everything filed or pending is reachable. -/
structure Walk (st : St) (R s : List Id) (t : Table) : Prop where
  inv : ∀ e ∈ t, ∀ c ∈ e.2.children, HasKey t c ∨ c ∈ s
  nodup : (keys t).Nodup
  recs : FromStore st t
  reach : ∀ e ∈ t, Reach st R e.1
  pend : ∀ k ∈ s, Reach st R k

theorem Walk.nil (st : St) (R : List Id) : Walk st R [] [] := by
  refine ⟨?_, by simp [keys], ?_, ?_, ?_⟩ <;> intro _ h <;> cases h

theorem Walk.push {st : St} {R : List Id} {t : Table} (w : Walk st R [] t) {s : List Id} (hs : ∀ k ∈ s, Reach st R k) :
    Walk st R s t :=
  ⟨fun e he c hc => (w.inv e he c hc).imp_right (by simp), w.nodup, w.recs, w.reach, hs⟩

/-- `traverse` finishes the walk: the table only grows and everything that was pending is filed. -/
theorem traverse_walk {st : St} {fns : Table} {R : List Id} {fuel s t x a t' x' a'}
    (h : traverse st fns fuel s t x a = .ok (t', x', a')) (w : Walk st R s t) :
    Walk st R [] t' ∧ (∀ e ∈ t, e ∈ t') ∧ ∀ k ∈ s, HasKey t' k := by
  have := traverse_inv (fun s1 t1 _ _ => Walk st R s1 t1 ∧ (∀ e ∈ t, e ∈ t1) ∧ ∀ k ∈ s, HasKey t1 k ∨ k ∈ s1)
    (by
      rintro k s t _ _ hk ⟨w, hs, hr⟩
      -- `k` is filed: "filed or pending" survives dropping it from the stack
      have drop : ∀ c, HasKey t c ∨ c ∈ k :: s → HasKey t c ∨ c ∈ s := by
        rintro c (h | h)
        · exact .inl h
        · rcases List.mem_cons.1 h with rfl | h
          · exact .inl (any_iff_hasKey.1 hk)
          · exact .inr h
      exact ⟨⟨fun e he c hc => drop c (w.inv e he c hc), w.nodup, w.recs, w.reach,
        fun c hc => w.pend c (List.mem_cons_of_mem _ hc)⟩, hs, fun c hc => drop c (hr c hc)⟩)
    (by
      rintro k s t _ _ op _ _ hk hop - ⟨w, hs, hr⟩
      have hrk : Reach st R k := w.pend k List.mem_cons_self
      -- `k` is filed now, its operands are pending
      have push : ∀ c, HasKey t c ∨ c ∈ k :: s → HasKey (t ++ [(k, op)]) c ∨ c ∈ op.children.reverse ++ s := by
        rintro c (h | h)
        · exact .inl (hasKey_append.2 (.inl h))
        · rcases List.mem_cons.1 h with rfl | h
          · exact .inl (hasKey_append.2 (.inr rfl))
          · exact .inr (List.mem_append_right _ h)
      refine ⟨⟨?_, keys_nodup_append w.nodup (fun h => hk (any_iff_hasKey.2 h)), ?_, ?_, ?_⟩,
        fun e he => List.mem_append_left _ (hs e he), fun c hc => push c (hr c hc)⟩
      · exact forall_mem_snoc (fun e he c hc => push c (w.inv e he c hc))
          fun c hc => .inr (List.mem_append_left _ (List.mem_reverse.2 hc))
      · exact forall_mem_snoc w.recs hop
      · exact forall_mem_snoc w.reach hrk
      · intro c hc
        rcases List.mem_append.1 hc with hc | hc
        · exact .step hrk hop (List.mem_reverse.1 hc)
        · exact w.pend c (List.mem_cons_of_mem _ hc))
    h ⟨w, fun _ h => h, fun _ h => .inr h⟩
  exact ⟨this.1, this.2.1, fun k hk => (this.2.2 k hk).resolve_right (by simp)⟩

/-- The program table is a finished walk from the roots of the outputs, which are filed, in declaration order. -/
theorem compileOutputs_walk {st : St} {outs t fs mo a t' fs' mo' a'}
    (h : compileOutputs st outs t fs mo a = .ok (t', fs', mo', a')) {R : List Id}
    (w : Walk st R [] t) (ho : ∀ o ∈ mo, HasKey t o.opId) (hR : mo.map (·.opId) ++ outs.map (·.root) = R) :
    Walk st R [] t' ∧ (∀ o ∈ mo', HasKey t' o.opId) ∧ mo'.map (·.opId) = R := by
  have := compileOutputs_inv
    (fun outs t _ mo _ => Walk st R [] t ∧ (∀ o ∈ mo, HasKey t o.opId) ∧ mo.map (·.opId) ++ outs.map (·.root) = R)
    (by
      rintro o os t _ mo _ t' _ _ op htr - ⟨w, ho, hR⟩
      have hroot : Reach st R o.root := .root (by simp [← hR])
      obtain ⟨w', hsub, hk⟩ := traverse_walk htr (w.push (s := [o.root]) (by simpa using hroot))
      exact ⟨w', forall_mem_snoc (fun x hx => (ho x hx).mono hsub) (hk _ List.mem_cons_self), by simpa using hR⟩)
    h ⟨w, ho, hR⟩
  simpa using this

/-- the table of an emitted function: a finished walk from the return operation, which it holds -/
structure GoodFn (st : St) (f : MirFn) : Prop where
  walk : Walk st [f.returnOp] [] f.ops
  ret : HasKey f.ops f.returnOp

theorem emitFunctions_walk {st : St} {fuel s fs out a out' a'}
    (h : emitFunctions st fuel s fs out a = .ok (out', a')) (hg : ∀ f ∈ out, GoodFn st f) : ∀ f ∈ out', GoodFn st f := by
  obtain ⟨_, this⟩ := emitFunctions_inv (fun _ _ out _ => ∀ f ∈ out, GoodFn st f)
    (by
      rintro k n as c ty s fs out a t ex a' args htr - hg
      obtain ⟨w, -, hk⟩ := traverse_walk htr ((Walk.nil st [c]).push (s := [c]) (fun _ h => .root h))
      exact forall_mem_snoc hg ⟨w, hk c List.mem_cons_self⟩)
    h hg
  exact this

/-- the tables of an emitted MIR (`compile_walk`) -/
structure GoodTables (st : St) (outs : List OutDecl) (m : MirProg) : Prop where
  prog : Walk st (outs.map (·.root)) [] m.operations
  outputs : ∀ o ∈ m.outputs, HasKey m.operations o.opId
  order : m.outputs.map (·.opId) = outs.map (·.root)
  fns : ∀ f ∈ m.functions, GoodFn st f

/-- **Every table of every MIR the compile model emits is a finished walk from its roots**: closed under operand
references, duplicate-free, made of store records, holding its roots (outputs in declaration order / the return
operation) and nothing that is not reachable from them — for every store and output list. -/
theorem compile_walk {st : St} {outs : List OutDecl} {m : MirProg} (h : compile st outs = .ok m) : GoodTables st outs m := by
  obtain ⟨t, fs, mo, a, fns, a2, hco, hef, rfl⟩ := compile_ok h
  obtain ⟨w, ho, hm⟩ := compileOutputs_walk hco (Walk.nil st _) (by simp) rfl
  exact ⟨w, ho, hm, emitFunctions_walk hef (by simp)⟩

/-- closure as the Bool spec states it -/
theorem Walk.closed {st : St} {R : List Id} {t : Table} (w : Walk st R [] t) : tableClosed t = true := by
  simp only [tableClosed, List.all_eq_true]
  exact fun e he c hc => (has_iff t c).2 ((w.inv e he c hc).resolve_right (by simp))

theorem compile_allTables {st : St} {outs : List OutDecl} {m : MirProg} (h : compile st outs = .ok m)
    {P : Table → Prop} (hP : ∀ R t, Walk st R [] t → P t) : ∀ t ∈ allTables m, P t :=
  have g := compile_walk h
  forall_allTables.2 ⟨hP _ _ g.prog, fun f hfm => hP _ _ (g.fns f hfm).walk⟩

end NadaVerif.Lemmas
