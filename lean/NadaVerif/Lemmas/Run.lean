/-
How the pieces of `exec` run from a state: `x.run.run s` for `pure`, `throw`, `>>=`, `if`, the primitives `alloc`, `put`,
`get`, `litIndex`, `mkLiteral`, and the readers `liftE`, `getVal`, `mapM` of a reader.  With these one command is computed
by rewriting (`simp_exec`), and a step of two runs is compared (`Lemmas/Shift.lean`), without opening the monad
transformers.
-/
import NadaVerif.Trace
import NadaVerif.Lemmas.Basic

namespace NadaVerif
variable {α β : Type} (s : St)

theorem pure_run (a : α) : (pure a : M α).run.run s = (.ok a, s) := rfl
theorem throw_run (e : Err) : (throw e : M α).run.run s = (.error e, s) := rfl

theorem bind_run (x : M α) (f : α → M β) :
    (x >>= f).run.run s = match x.run.run s with
      | (.ok a, s') => (f a).run.run s'
      | (.error e, s') => (.error e, s') := by
  rw [ExceptT.run_bind, StateT.run_bind]
  rcases x.run.run s with ⟨_ | _, _⟩ <;> rfl

theorem ite_run (c : Prop) [Decidable c] (x y : M α) :
    (if c then x else y).run.run s = if c then x.run.run s else y.run.run s := by split <;> rfl

theorem alloc_run : alloc.run.run s = (.ok (s.counter + 1), { s with counter := s.counter + 1 }) := rfl
theorem put_run (k : Id) (op : AstOp) : (put k op).run.run s = (.ok (), { s with ops := (k, op) :: s.ops }) := rfl
theorem get_run : (get : M St).run.run s = (.ok s, s) := rfl
theorem liftE_run (e : Except Err α) : (liftE e).run.run s = (e, s) := by cases e <;> rfl

theorem getVal_run (regs : List RVal) (r : Reg) :
    (getVal regs r).run.run s =
      (match regs[r]? with
        | some (.val v) => .ok v
        | some .dead | none => .error .dead
        | some _ => .error .unsupported, s) := by
  unfold getVal; split <;> simp only [*] <;> rfl

theorem childOf_run (v : Val) :
    (childOf v).run.run s = (match v.child with | some c => .ok c | none => .error .unsupported, s) := by
  unfold childOf; split <;> simp only [*] <;> rfl

theorem ok_bind {ε : Type} (a : α) (f : α → Except ε β) : (Except.ok a >>= f) = f a := rfl

/-- `LiteralASTOperation.__init__` interns the key in the literal table -/
theorem litIndex_run (key : String) :
    (litIndex key).run.run s = (.ok (Lemmas.internAt s.lits key).1, { s with lits := (Lemmas.internAt s.lits key).2 }) := by
  unfold litIndex Lemmas.internAt
  simp only [bind_run, get_run]
  cases s.lits.idxOf? key <;> rfl

theorem mkLiteral_run (base : Base) (v : LitVal) :
    (mkLiteral base v).run.run s =
      (.ok (.scalar ⟨.const, base⟩ (some (s.counter + 1)) (some v)),
       { counter := s.counter + 1,
         ops := (s.counter + 1, .literal v.str (Lemmas.internAt s.lits (litKey v ⟨.const, base⟩)).1 (.scalar (STy.mirName ⟨.const, base⟩))) :: s.ops,
         lits := (Lemmas.internAt s.lits (litKey v ⟨.const, base⟩)).2 }) := by
  unfold mkLiteral
  simp only [bind_run, alloc_run, litIndex_run]
  rfl

/-- state-preserving readers run one after the other: if `f` returns `y` on `x` and leaves the state alone wherever `R x y`,
then `mapM f` returns `ys` on any `xs` related to it position by position -/
theorem mapM_run {s : St} {f : α → M β} {R : α → β → Prop} (hf : ∀ x y, R x y → (f x).run.run s = (.ok y, s)) :
    ∀ {xs : List α} {ys : List β}, Lemmas.All2 R xs ys → (xs.mapM f).run.run s = (.ok ys, s)
  | [], [], _ => rfl
  | x :: xs, y :: ys, ⟨h, hs⟩ => by simp only [List.mapM_cons, bind_run, hf x y h, mapM_run hf hs, pure_run]
  | [], _ :: _, h | _ :: _, [], h => h.elim

/-- compute one `exec` clause from a state by the `…_run` equations (`ts`: what is known of the registers, and the helpers
of the clause) -/
macro "simp_exec" "[" ts:Lean.Parser.Tactic.simpLemma,* "]" : tactic =>
  `(tactic| simp only [exec, bind_run, pure_run, throw_run, alloc_run, put_run, get_run, liftE_run, ite_run, getVal_run, childOf_run, ok_bind,
      ne_eq, not_true_eq_false, not_false_eq_true, Bool.false_eq_true, ite_true, ite_false, $ts,*])

end NadaVerif
