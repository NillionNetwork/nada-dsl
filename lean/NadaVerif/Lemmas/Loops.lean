/-
One invariant rule per loop of the compile model (`traverse`, `compileOutputs`, `emitFunctions`) and the
shape of a successful and of a failing `compile`: what the lemmas about the compile model are instances of.  (First:
`Spec.count` is core's `List.count`.)
-/
import NadaVerif.Spec.Graph
import NadaVerif.Lemmas.Basic

namespace NadaVerif.Lemmas
open NadaVerif NadaVerif.Spec

theorem count_eq_count {α} [DecidableEq α] (x : α) (l : List α) : count x l = l.count x := by
  rw [count, List.count_eq_countP, List.countP_eq_length_filter]
  congr 2
theorem count_eq_one_of_nodup {α} [DecidableEq α] {x : α} {l : List α} (hn : l.Nodup) (hm : x ∈ l) : count x l = 1 := by
  rw [count_eq_count, hn.count, if_pos hm]
theorem mem_of_count_eq_one {α} [DecidableEq α] {x : α} {l : List α} (h : count x l = 1) : x ∈ l :=
  List.count_pos_iff.mp (by rw [← count_eq_count, h]; exact Nat.one_pos)

theorem forall_allTables {m : MirProg} {P : Table → Prop} :
    (∀ t ∈ allTables m, P t) ↔ P m.operations ∧ ∀ f ∈ m.functions, P f.ops := by
  rw [allTables, List.forall_mem_cons, List.forall_mem_map]

/-- what one visit of `traverse` does to the list of newly found functions -/
abbrev addExtra (ex : Option (Id × AstOp)) (extra : Table) : Table :=
  match ex with | some f => upsertFn f extra | none => extra

/-- Invariant rule for a successful `traverse`: `P` holds of the final state if it holds initially, survives
dropping a filed id from the stack, and survives one visit. -/
theorem traverse_inv {st : St} {functions : Table} (P : List Id → Table → Table → CAcc → Prop)
    (skip : ∀ k s t x a, (t.any (·.1 = k)) = true → P (k :: s) t x a → P s t x a)
    (visit : ∀ k s t x a op a' ex, ¬ (t.any (·.1 = k)) = true → st.lookup k = some op →
      processOp st k op functions a = .ok (a', ex) → P (k :: s) t x a →
      P (op.children.reverse ++ s) (t ++ [(k, op)]) (addExtra ex x) a')
    {fuel s t x a t' x' a'} (h : traverse st functions fuel s t x a = .ok (t', x', a')) (h0 : P s t x a) :
    P [] t' x' a' := by
  fun_induction traverse st functions fuel s t x a with
  | case1 => cases h; exact h0
  | case2 | case4 | case5 => cases h
  | case3 _ k s t x a hk ih => exact ih h (skip k s t x a hk h0)
  | case6 _ k s t x a hk op hop a' ex hp _ ih => exact ih h (visit k s t x a op a' ex hk hop hp h0)

/-- Invariant rule for a successful `compileOutputs`: one step = one traversal from the output's root. -/
theorem compileOutputs_inv {st : St} (P : List OutDecl → Table → Table → List MirOutput → CAcc → Prop)
    (step : ∀ o os t fs mo a t' ex a' op, traverse st fs st.fuel [o.root] t [] a = .ok (t', ex, a') →
      st.lookup o.root = some op → P (o :: os) t fs mo a →
      P os t' (mergeFns fs ex) (mo ++ [{ opId := o.root, name := o.name, party := o.party, ty := op.ty }])
        { a' with parties := insertSorted o.party a'.parties })
    {outs t fs mo a t' fs' mo' a'} (h : compileOutputs st outs t fs mo a = .ok (t', fs', mo', a'))
    (h0 : P outs t fs mo a) : P [] t' fs' mo' a' := by
  fun_induction compileOutputs st outs t fs mo a with
  | case1 => cases h; exact h0
  | case2 | case3 => cases h
  | case4 o os t fs mo a t1 ex a1 htr op hop _ ih => exact ih h (step o os t fs mo a t1 ex a1 op htr hop h0)

theorem fnToMir_ok {st : St} {k : Id} {f : AstOp} {t : Table} {mf : MirFn} (h : fnToMir st k f t = .ok mf) :
    ∃ n as c ty args, f = .function n as c ty ∧ as.mapM (argOf st) = .ok args ∧
      mf = { id := k, args := args, name := n, returnOp := c, ops := t, returnType := ty } := by
  cases f <;> try cases h
  rename_i n as c ty
  simp only [fnToMir, bind, Except.bind] at h
  split at h
  · cases h
  · rename_i args hargs; cases h; exact ⟨n, as, c, ty, args, rfl, hargs, rfl⟩

/-- the two ways `fnToMir` fails: the record is not a function or a parameter is not a parameter record (`.T`), or a
parameter id is missing (`.key`) -/
theorem fnToMir_error {st : St} {k : Id} {f : AstOp} {t : Table} {e : Err} (h : fnToMir st k f t = .error e) :
    e = .T ∨ e = .key ∧ ∃ n as c ty, f = .function n as c ty ∧ ∃ a ∈ as, st.lookup a = none := by
  cases f <;> try (cases h; exact .inl rfl)
  rename_i n as c ty
  simp only [fnToMir, bind, Except.bind] at h
  split at h <;> cases h
  obtain ⟨a, ha, hf⟩ := mapM_error ‹as.mapM (argOf st) = _›
  unfold argOf at hf
  split at hf <;> cases hf
  · exact .inl rfl
  · exact .inr ⟨rfl, n, as, c, ty, rfl, a, ha, ‹_›⟩

/-- Invariant rule for a successful `emitFunctions`: one step = one traversal from the function's return
operation into an empty table. -/
theorem emitFunctions_inv {st : St} (P : Table → Table → List MirFn → CAcc → Prop)
    (step : ∀ k n as c ty s fs out a t ex a' args, traverse st fs st.fuel [c] [] [] a = .ok (t, ex, a') →
      as.mapM (argOf st) = .ok args → P ((k, .function n as c ty) :: s) fs out a →
      P (ex.reverse ++ s) (mergeFns fs ex)
        (out ++ [{ id := k, args := args, name := n, returnOp := c, ops := t, returnType := ty }]) a')
    {fuel s fs out a out' a'} (h : emitFunctions st fuel s fs out a = .ok (out', a')) (h0 : P s fs out a) :
    ∃ fs', P [] fs' out' a' := by
  fun_induction emitFunctions st fuel s fs out a with
  | case1 _ fs => cases h; exact ⟨fs, h0⟩
  | case2 | case3 | case6 => cases h
  | case4 _ _ _ _ _ _ _ _ _ _ _ _ _ _ _ hmf => rw [hmf] at h; cases h
  | case5 _ k s fs out a n as c ty t ex a1 htr mf hmf ih =>
    rw [hmf] at h
    obtain ⟨_, _, _, _, args, hf, hargs, rfl⟩ := fnToMir_ok hmf
    cases hf
    exact ih h (step k n as c ty s fs out a t ex a1 args htr hargs h0)

/-- A successful `compile` is a successful `compileOutputs` from empty tables followed by a successful
`emitFunctions` from the functions it found. -/
theorem compile_ok {st : St} {outs : List OutDecl} {m : MirProg} (h : compile st outs = .ok m) :
    ∃ t fs mo a fns a2, compileOutputs st outs [] [] [] {} = .ok (t, fs, mo, a) ∧
      emitFunctions st (st.ops.length + 1) fs.reverse fs [] a = .ok (fns, a2) ∧
      m = { functions := fns, parties := a2.parties, inputs := a2.inputs.flatMap (·.2),
            literals := a2.literals, outputs := mo, operations := t } := by
  simp only [compile, bind, Except.bind] at h
  split at h
  · cases h
  · rename_i r hco
    obtain ⟨t, fs, mo, a⟩ := r
    simp only at h
    split at h
    · cases h
    · rename_i r2 hef
      obtain ⟨fns, a2⟩ := r2
      cases h
      exact ⟨t, fs, mo, a, fns, a2, hco, hef, rfl⟩

/-- … and a failing one is a failure of the one or of the other. -/
theorem compile_error {st : St} {outs : List OutDecl} {e : Err} (h : compile st outs = .error e) :
    compileOutputs st outs [] [] [] {} = .error e ∨
    ∃ t fs mo a, compileOutputs st outs [] [] [] {} = .ok (t, fs, mo, a) ∧
      emitFunctions st (st.ops.length + 1) fs.reverse fs [] a = .error e := by
  simp only [compile, bind, Except.bind] at h
  split at h
  · cases h; exact .inl ‹_›
  · rename_i r hco
    obtain ⟨t, fs, mo, a⟩ := r
    simp only at h
    split at h <;> cases h
    exact .inr ⟨t, fs, mo, a, hco, ‹_›⟩

end NadaVerif.Lemmas
