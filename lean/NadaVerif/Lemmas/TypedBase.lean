/-
Typed store — pure part.  `to_mir()` inverted constructor by constructor, and the
results of the scalar rules seen through the erased edge relation `Edge.binEdge` (no state here).
-/
import NadaVerif.Spec.Edge
import NadaVerif.Lemmas.ScalarRules
import NadaVerif.Lemmas.Basic

namespace NadaVerif.Lemmas
open NadaVerif NadaVerif.Edge

theorem toMir_withChild (v : Val) (k : Id) : (v.withChild k).toMir = v.toMir := by
  cases v <;> simp [Val.withChild, Val.toMir]

theorem child_withChild (v : Val) (k : Id) : (v.withChild k).child = some k := by
  cases v <;> simp [Val.withChild, Val.child]

theorem array_toMir_inv {e : Elem} {n : Option Int} {c : Option Id} {ty : MTy} (h : (Val.array e n c).toMir = .ok ty) :
    ∃ inner, e.innerType = .ok inner ∧ ty = .array inner (sizeOfArray n) := by
  obtain ⟨inner, hi, h⟩ := bind_eq_ok.1 (by simpa only [Val.toMir] using h)
  cases h; exact ⟨inner, hi, rfl⟩

theorem tuple_toMir_inv {l r : Elem} {c : Option Id} {ty : MTy} (h : (Val.tuple l r c).toMir = .ok ty) :
    ∃ lt rt, l.sideType = .ok lt ∧ r.sideType = .ok rt ∧ ty = .tuple lt rt := by
  obtain ⟨lt, hl, h⟩ := bind_eq_ok.1 (by simpa only [Val.toMir] using h)
  obtain ⟨rt, hr, h⟩ := bind_eq_ok.1 h
  cases h; exact ⟨lt, rt, hl, hr, rfl⟩

theorem ntuple_toMir_inv {vs : Vals} {c : Option Id} {ty : MTy} (h : (Val.ntuple vs c).toMir = .ok ty) :
    ∃ ts, vs.memberTypes = .ok ts ∧ ty = .ntuple ts := by
  obtain ⟨ts, hts, h⟩ := bind_eq_ok.1 (by simpa only [Val.toMir] using h)
  cases h; exact ⟨ts, hts, rfl⟩

theorem object_toMir_inv {fs : VFields} {c : Option Id} {ty : MTy} (h : (Val.object fs c).toMir = .ok ty) :
    ∃ ts, fs.memberTypes = .ok ts ∧ ty = .object ts := by
  obtain ⟨ts, hts, h⟩ := bind_eq_ok.1 (by simpa only [Val.toMir] using h)
  cases h; exact ⟨ts, hts, rfl⟩

theorem arrayType_sideType_inv {e : Elem} {n : Option Int} {ty : MTy} (h : (Elem.arrayType e n).sideType = .ok ty) :
    ∃ inner, e.asInstanceToMir = .ok inner ∧ ty = .array inner (sizeOfArrayType n) := by
  obtain ⟨inner, hi, h⟩ := bind_eq_ok.1 (by simpa only [Elem.sideType] using h)
  cases h; exact ⟨inner, hi, rfl⟩

/-- `sideType` is `innerType`, and `asInstanceToMir` is `sideType`, where they succeed: the first raises for the TypeVar, the second
for a bare class as well -/
theorem sideType_eq_innerType (e : Elem) (t : MTy) (h : e.sideType = .ok t) : e.innerType = .ok t := by
  cases e <;> first | exact h | cases h

theorem asInstance_eq_sideType (e : Elem) (t : MTy) (h : e.asInstanceToMir = .ok t) : e.sideType = .ok t := by
  cases e <;> first | exact h | cases h

theorem scalarClass_innerType {e : Elem} {t : STy} (h : e.scalarClass = some t) : e.innerType = .ok (.scalar t.mirName) := by
  cases e with
  | cls s => simp [Elem.scalarClass] at h; subst h; rfl
  | inst v => cases v <;> simp_all [Elem.scalarClass, Elem.innerType, Val.toMir]
  | typeVar => simp [Elem.scalarClass] at h
  | arrayType e n => simp [Elem.scalarClass] at h

theorem memberTypes_get : ∀ (vs : Vals) (ts : MTys) (i : Nat) (m : Val) (ty : MTy),
    vs.memberTypes = .ok ts → vs.toList[i]? = some m → m.toMir = .ok ty → ts.toList[i]? = some ty
  | .nil, _, i, m, _, _, hm, _ => by simp [Vals.toList] at hm
  | .cons v vs, _, i, m, ty, h, hm, hty => by
    obtain ⟨t, ht, h⟩ := bind_eq_ok.1 (by simpa only [Vals.memberTypes] using h)
    obtain ⟨ts', hts, h⟩ := bind_eq_ok.1 h
    cases h
    cases i with
    | zero => simp [Vals.toList] at hm; subst hm; rw [ht] at hty; cases hty; simp [MTys.toList]
    | succ i => simp [Vals.toList] at hm; simpa [MTys.toList] using memberTypes_get vs ts' i m ty hts hm hty

theorem fieldTypes_find : ∀ (fs : VFields) (ts : MFields) (key : String) (p : String × Val) (ty : MTy),
    fs.memberTypes = .ok ts → fs.toList.find? (·.1 == key) = some p → p.2.toMir = .ok ty →
    (ts.toList.find? (·.1 == key)).map (·.2) = some ty
  | .nil, _, _, _, _, _, hm, _ => by simp [VFields.toList] at hm
  | .cons k v fs, _, key, p, ty, h, hm, hty => by
    obtain ⟨t, ht, h⟩ := bind_eq_ok.1 (by simpa only [VFields.memberTypes] using h)
    obtain ⟨ts', hts, h⟩ := bind_eq_ok.1 h
    cases h
    simp only [VFields.toList, List.find?_cons] at hm
    simp only [MFields.toList, List.find?_cons]
    cases hk : k == key
    · rw [hk] at hm; exact fieldTypes_find fs ts' key p ty hts hm hty
    · rw [hk] at hm; cases hm; rw [ht] at hty; cases hty; rfl

/-- the member types of a list of values, position by position -/
theorem memberTypes_ofList : ∀ (vs : List Val) (ts : MTys), (Vals.ofList vs).memberTypes = .ok ts →
    All2 (fun v t => v.toMir = .ok t) vs ts.toList ∧ MTys.ofList ts.toList = ts
  | [], _, h => by cases h; exact ⟨trivial, rfl⟩
  | v :: vs, _, h => by
    obtain ⟨t, ht, h⟩ := bind_eq_ok.1 (by simpa only [Vals.ofList, Vals.memberTypes] using h)
    obtain ⟨ts', hts, h⟩ := bind_eq_ok.1 h
    cases h
    have ih := memberTypes_ofList vs ts' hts
    exact ⟨⟨ht, ih.1⟩, by simp only [MTys.toList, MTys.ofList, ih.2]⟩

theorem fieldTypes_ofList : ∀ (fs : List (String × Val)) (ts : MFields), (VFields.ofList fs).memberTypes = .ok ts →
    All2 (fun p q => p.2.toMir = .ok q.2) fs ts.toList
  | [], _, h => by cases h; trivial
  | (k, v) :: fs, _, h => by
    obtain ⟨t, ht, h⟩ := bind_eq_ok.1 (by simpa only [VFields.ofList, VFields.memberTypes] using h)
    obtain ⟨ts', hts, h⟩ := bind_eq_ok.1 h
    cases h
    exact ⟨ht, fieldTypes_ofList fs ts' hts⟩

theorem self_mem_live (v : Val) : v ∈ v.live := by
  cases v <;> simp [Val.live]

theorem live_vals_mem : ∀ (vs : Vals) (m : Val), m ∈ vs.toList → ∀ w ∈ m.live, w ∈ Vals.live vs
  | .nil, m, hm, _, _ => by simp [Vals.toList] at hm
  | .cons v vs, m, hm, w, hw => by
    simp only [Vals.toList, List.mem_cons] at hm
    simp only [Vals.live, List.mem_append]
    rcases hm with rfl | hm
    · exact .inl hw
    · exact .inr (live_vals_mem vs m hm w hw)

theorem live_fields_mem : ∀ (fs : VFields) (k : String) (m : Val), (k, m) ∈ fs.toList → ∀ w ∈ m.live, w ∈ VFields.live fs
  | .nil, _, m, hm, _, _ => by simp [VFields.toList] at hm
  | .cons k' v fs, k, m, hm, w, hw => by
    simp only [VFields.toList, List.mem_cons, Prod.mk.injEq] at hm
    simp only [VFields.live, List.mem_append]
    rcases hm with ⟨_, rfl⟩ | hm
    · exact .inl hw
    · exact .inr (live_fields_mem fs k m hm w hw)

theorem live_ofList (vs : List Val) : ∀ w, w ∈ Vals.live (Vals.ofList vs) ↔ ∃ v ∈ vs, w ∈ v.live := by
  induction vs with
  | nil => simp [Vals.ofList, Vals.live]
  | cons v vs ih => intro w; simp [Vals.ofList, Vals.live, ih]

theorem live_fieldsOfList (fs : List (String × Val)) :
    ∀ w, w ∈ VFields.live (VFields.ofList fs) ↔ ∃ p ∈ fs, w ∈ p.2.live := by
  induction fs with
  | nil => simp [VFields.ofList, VFields.live]
  | cons p fs ih => obtain ⟨k, v⟩ := p; intro w; simp [VFields.ofList, VFields.live, ih]

theorem live_withChild (v : Val) (k : Id) : ∀ w ∈ (v.withChild k).live, w = v.withChild k ∨ w ∈ v.live := by
  intro w hw
  cases v <;> simp_all [Val.withChild, Val.live] <;> grind

/-! ### scalar rules: an accepted, unfolded result satisfies the erased edge relation -/

theorem mem_scalarOf (s : STy) : s ∈ scalarOf (.scalar s.mirName) := by
  simp [scalarOf, STy.mem_all]

/-- MIR shows of a mode only whether it is secret -/
theorem mirName_emode {m : Mode} (b : Base) (h : m ≠ .const) : (STy.mk m b).mirName = (STy.mk (emode (m == .sec)) b).mirName := by
  cases m <;> first | rfl | exact absurd rfl h

theorem Mode.max_sec (a b : Mode) : (Mode.max a b == .sec) = (a == .sec || b == .sec) := by
  cases a <;> cases b <;> rfl

/-- Finite by nature (17 operators, 9 × 9 operand types), and the acceptance conditions differ from operator class to
operator class: evaluated. -/
theorem binEdge_table :
    (BinOp.all.all fun op => STy.all.all fun a => STy.all.all fun b =>
      match typeBin op a b with
      | .ok t false => binEdge op.mirName a b (.scalar t.mirName)
      | _ => true) = true := by decide +kernel

theorem binEdge_of_typeBin (op : BinOp) (a b t : STy) (h : typeBin op a b = .ok t false) :
    binEdge op.mirName a b (.scalar t.mirName) = true := by
  have := List.all_eq_true.1 (List.all_eq_true.1 (List.all_eq_true.1 binEdge_table op (BinOp.mem_all op)) a (STy.mem_all a))
    b (STy.mem_all b)
  simpa only [h] using this

theorem binEdge_of_truncPr (a b t : STy) (h : typeTruncPr a b = .ok t false) :
    binEdge "TruncPr" a b (.scalar t.mirName) = true := by
  unfold typeTruncPr at h
  split at h
  · rename_i hc
    cases h
    obtain ⟨m, base⟩ := a
    obtain rfl : m = .sec := hc.1
    simp [binEdge, arithNames, shiftNames, relLogicNames]
  · cases h

theorem binEdge_of_publicEquals (a b t : STy) (h : typePublicEquals a b = .ok t false) :
    binEdge "PublicOutputEquality" a b (.scalar t.mirName) = true := by
  unfold typePublicEquals at h
  split at h
  · cases h; simp [binEdge, arithNames, shiftNames, relLogicNames, STy.mirName]
  · cases h

theorem ifElse_edge (c a b t : STy) (h : typeIfElse c a b = .ok t false) :
    (a.base == b.base &&
      (MTy.scalar t.mirName == .scalar (STy.mk (emode (STy.isSec c || STy.isSec a || STy.isSec b)) a.base).mirName)) = true := by
  unfold typeIfElse at h
  split at h
  · rename_i hc
    cases h
    -- the condition is no literal, so neither is the result; MIR then shows the mode as the erased secrecy
    have hm : Mode.max c.mode (Mode.max a.mode b.mode) ≠ .const := fun e => hc.2.2.2 (Mode.max_eq_const.1 e).1
    simp [hc.2.1, mirName_emode _ hm, Mode.max_sec, STy.isSec, Bool.or_assoc]
  · cases h

theorem invert_edge (a t : STy) (h : typeInvert a = .ok t false) : t = a := by
  unfold typeInvert at h
  split at h
  · injection h with h; exact h.symm
  · cases h

theorem reveal_edge (a t : STy) (h : typeReveal a = .ok t false) :
    MTy.scalar t.mirName = .scalar (STy.mk .pub a.base).mirName := by
  unfold typeReveal at h
  split at h <;> cases h; rfl

end NadaVerif.Lemmas
