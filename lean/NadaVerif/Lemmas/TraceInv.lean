/-
The trace keeps its store in order, and keeps what it has recorded — for **every** command list (the invariant itself:
`Lemmas/Invariant.lean`).

One Hoare triple per command (`exec_ok`; `ex_…` for a command with an argument of its own), generated with `mvcgen`
from the code of `exec`.  A command that stores under ids it draws itself — all but three — advances the store (`Adv`)
whatever it does, accepted or rejected, whatever partial effects it leaves, and the new registers are good (`RGood`):
`Goal`, from which `MachOK.fresh` gives the machine left.  `T(Input)`, `Array(value, size)` and the closing of a function
store under one id drawn before (`MachOK.put`).  `step_inv`, `runCmds_inv` lift it to all command lists; `trace_storeWF`
is the statement C01 uses, `trace_ok` the one from which `Props/C01.lean` shows (for C08 and C09 too) that compiling a
traced program never looks up an id that is missing, `trace_persist` the one behind `C04.records_persist`.  The first part
of the file describes the primitives and the state-preserving readers of the tracing monad exactly; the typed-store layer
(`Lemmas/Typed.lean`) builds on the same descriptions.
-/
import Std.Do
import Std.Tactic.Do
import NadaVerif.Lemmas.Attr
import NadaVerif.Lemmas.Basic
import NadaVerif.Lemmas.Invariant

namespace NadaVerif.Lemmas
open Std.Do NadaVerif NadaVerif.Spec

set_option mvcgen.warning false

/-- from a Hoare triple to the run of the state/exception monad -/
theorem triple_run {α} (m : M α) (s0 : St) (Q : α → St → Prop) (E : St → Prop)
    (h : ⦃fun s => ⌜s = s0⌝⦄ m ⦃post⟨fun a s => ⌜Q a s⌝, fun _ s => ⌜E s⌝⟩⦄) :
    match m.run.run s0 with
    | (.ok a, s') => Q a s'
    | (.error _, s') => E s' := by
  have := h s0 rfl
  simp only [WP.wp, PredTrans.apply, PredTrans.pushExcept, PredTrans.pushArg, PredTrans.pure, pure, Id.run, StateT.run] at this
  generalize hr : ExceptT.run m s0 = r at this ⊢
  obtain ⟨e, s'⟩ := r
  simp only [StateT.run, hr]
  cases e <;> simpa using this

theorem alloc_spec (s0 : St) :
    ⦃fun s => ⌜s = s0⌝⦄ alloc
    ⦃post⟨fun k s => ⌜k = s0.counter + 1 ∧ s.counter = s0.counter + 1 ∧ s.ops = s0.ops⌝, fun _ _ => ⌜False⌝⟩⦄ := by
  mvcgen [alloc] <;> simp_all

theorem put_spec (k : Id) (op : AstOp) (s0 : St) :
    ⦃fun s => ⌜s = s0⌝⦄ put k op
    ⦃post⟨fun _ s => ⌜s.counter = s0.counter ∧ s.ops = (k, op) :: s0.ops⌝, fun _ _ => ⌜False⌝⟩⦄ := by
  mvcgen [put]
  subst_vars; exact ⟨rfl, rfl⟩

theorem litIndex_spec (key : String) (s0 : St) :
    ⦃fun s => ⌜s = s0⌝⦄ litIndex key
    ⦃post⟨fun _ s => ⌜s.counter = s0.counter ∧ s.ops = s0.ops⌝, fun _ _ => ⌜False⌝⟩⦄ := by
  mvcgen [litIndex] <;> simp_all

theorem getVal_spec' (regs : List RVal) (r : Reg) (s0 : St) :
    ⦃fun s => ⌜s = s0⌝⦄ getVal regs r
    ⦃post⟨fun v s => ⌜s = s0 ∧ regs[r]? = some (.val v)⌝, fun _ s => ⌜s = s0⌝⟩⦄ := by
  mvcgen [getVal] <;> simp_all
theorem liftE_spec' {α} (e : Except Err α) (s0 : St) :
    ⦃fun s => ⌜s = s0⌝⦄ liftE e ⦃post⟨fun a s => ⌜s = s0 ∧ e = .ok a⌝, fun _ s => ⌜s = s0⌝⟩⦄ := by
  mvcgen [liftE] <;> simp_all
theorem childOf_spec' (v : Val) (s0 : St) :
    ⦃fun s => ⌜s = s0⌝⦄ childOf v ⦃post⟨fun c s => ⌜s = s0 ∧ v.child = some c⌝, fun _ s => ⌜s = s0⌝⟩⦄ := by
  mvcgen [childOf] <;> simp_all

/-- The judgment of which the last three are instances: `m` leaves the state alone, whether it returns or throws, and what
it returns satisfies `Q`. -/
abbrev Reads {α} (m : M α) (s0 : St) (Q : α → Prop) : Prop :=
  ⦃fun s => ⌜s = s0⌝⦄ m ⦃post⟨fun a s => ⌜s = s0 ∧ Q a⌝, fun _ s => ⌜s = s0⌝⟩⦄

theorem getScalar_spec (regs : List RVal) (r : Reg) (s0 : St) :
    Reads (getScalar regs r) s0 fun x => regs[r]? = some (.val (.scalar x.1 (some x.2.1) x.2.2)) := by
  mvcgen [getScalar, getVal_spec'] <;> simp_all

theorem reads_mono {α} {m : M α} {s0 : St} {Q Q' : α → Prop}
    (h : Reads m s0 Q) (hq : ∀ a, Q a → Q' a) : Reads m s0 Q' := by
  mvcgen [h]
  rintro rfl hQ; exact ⟨rfl, hq _ hQ⟩

/-- reading a list of things one after the other: the state is left alone, and what `R` says of each single read holds
position by position -/
theorem mapM_reads {α β} (f : α → M β) (R : α → β → Prop)
    (hf : ∀ a s0, Reads (f a) s0 (R a)) (xs : List α) (s0 : St) : Reads (xs.mapM f) s0 (All2 R xs) := by
  induction xs generalizing s0 with
  | nil => simp only [List.mapM_nil]; mvcgen <;> simp_all
  | cons x xs ih =>
    simp only [List.mapM_cons]
    mvcgen [hf, ih]
    all_goals simp_all

theorem mapM_getVal_exact (regs : List RVal) (xs : List Reg) (s0 : St) :
    Reads (xs.mapM (getVal regs)) s0 (All2 (fun r v => regs[r]? = some (.val v)) xs) :=
  mapM_reads (getVal regs) (fun r v => regs[r]? = some (.val v)) (getVal_spec' regs) xs s0

theorem childIds_exact (vs : List Val) (s0 : St) : Reads (childIds vs) s0 (All2 (fun v c => v.child = some c) vs) :=
  mapM_reads childOf (fun v c => v.child = some c) childOf_spec' vs s0

theorem childOf_mem (v : Val) (s0 : St) : Reads (childOf v) s0 fun c => c ∈ Val.ids v :=
  reads_mono (childOf_spec' v s0) fun _ => child_mem_ids

theorem childIds_spec (vs : List Val) (s0 : St) :
    ⦃fun s => ⌜s = s0⌝⦄ childIds vs
    ⦃post⟨fun ids s => ⌜s = s0 ∧ ∀ x ∈ ids, ∃ v ∈ vs, x ∈ Val.ids v⌝, fun _ s => ⌜s = s0⌝⟩⦄ :=
  reads_mono (childIds_exact vs s0) fun _ h x hx => let ⟨v, hv, hc⟩ := All2.right h x hx; ⟨v, hv, child_mem_ids hc⟩

theorem mapM_toMir_exact (vs : List Val) (s0 : St) :
    Reads (vs.mapM (fun v => liftE v.toMir)) s0 (All2 (fun v t => v.toMir = .ok t) vs) :=
  -- elaborated before it meets the expected type: unifying the two post-conditions first is slow
  have := mapM_reads (fun v => liftE (Val.toMir v)) (fun v t => Val.toMir v = .ok t) (fun v => liftE_spec' (Val.toMir v)) vs s0
  this

theorem mapM_fields_exact (regs : List RVal) (fs : List (String × Reg)) (s0 : St) :
    Reads (fs.mapM (fun (p : String × Reg) => do pure (p.1, ← getVal regs p.2))) s0
      (All2 (fun p q => q.1 = p.1 ∧ regs[p.2]? = some (.val q.2)) fs) := by
  refine mapM_reads _ _ (fun p s => ?_) fs s0
  mvcgen [getVal_spec'] <;> simp_all

attribute [vc_ids] Adv.refl adv_same post_one rgood_val rgood_party rgood_input Nat.le_add_right Nat.le_refl
  false_imp_iff Val.scalar.injEq Option.some.injEq mentions_binary mentions_unary mentions_ifElse mentions_ntupleAcc
  mentions_objectAcc mentions_random Val.ids Elem.ids ids_ofList ids_fieldsOfList Option.toList
  List.mem_cons List.not_mem_nil List.mem_append forall_eq_or_imp forall_eq or_false false_or and_true
  implies_true SPred.down_pure SPred.entails_nil true_imp_iff

/-- Normal form of the verification conditions: the state equations of the specifications are substituted, `vc_ids` is
applied, and what is then an assumption (the paths that fail before anything is stored, above all) is closed. -/
macro "vc_ids" : tactic => `(tactic| simp_all +zetaDelta only [vc_ids])

theorem mkLiteral_adv (base : Base) (v : LitVal) (s0 : St) :
    ⦃fun s => ⌜s = s0⌝⦄ mkLiteral base v
    ⦃post⟨fun r s => ⌜Adv s0 s ∧ r = .scalar ⟨.const, base⟩ (some (s0.counter + 1)) (some v) ∧ Good s (s0.counter + 1)⌝,
          fun _ _ => ⌜False⌝⟩⦄ := by
  mvcgen [mkLiteral, alloc_spec, litIndex_spec, put_spec]
  simp_all only
  have := adv_fresh (op := .literal _ _ _) ‹_› (by simp [AstOp.children]) (by simp [mentions_literal])
  exact ⟨this.1, rfl, this.2.1⟩

/-- what the helpers that build one value guarantee: the store advances, the value's ids are good -/
abbrev ValPost (s0 : St) : PostCond Val (.except Err (.arg St .pure)) :=
  post⟨fun v s => ⌜Adv s0 s ∧ ∀ x ∈ Val.ids v, Good s x⌝, fun _ s => ⌜Adv s0 s⌝⟩

theorem scalarResult_adv (out : Out) (foldE : Option (Py.PyExpr × Base)) (l r : Option LitVal) (mkOp : MTy → AstOp)
    (s0 : St) (hmk : ∀ ty, ∀ c ∈ (mkOp ty).mentions, Good s0 c) :
    ⦃fun s => ⌜s = s0⌝⦄ scalarResult out foldE l r mkOp ⦃ValPost s0⦄ := by
  mvcgen [scalarResult, mkLiteral_adv, alloc_spec, put_spec]
  all_goals vc_ids
  have := adv_fresh' ‹_› (hmk _)
  exact ⟨this.1, this.2.1⟩

/-- `_generate_accessor` in state `sa`, after the caller drew the id `k` in state `s0` -/
theorem genAccessor_adv (member : Val) (k : Id) (mk : MTy → AstOp) (s0 sa : St)
    (hal : k = s0.counter + 1 ∧ sa.counter = s0.counter + 1 ∧ sa.ops = s0.ops)
    (hm : ∀ x ∈ Val.ids member, Good s0 x) (hmk : ∀ ty, ∀ c ∈ (mk ty).mentions, Good s0 c) :
    ⦃fun s => ⌜s = sa⌝⦄ genAccessor member k mk ⦃ValPost s0⦄ := by
  obtain ⟨rfl, hal⟩ := hal
  have hsa : Adv s0 sa := adv_same (by omega) hal.2
  mvcgen [genAccessor, put_spec, liftE_spec']
  all_goals simp_all only [implies_true, true_and]
  · exact fun x hx => (hm x hx).mono hsa
  · have := adv_fresh' ‹_ ∧ _› (hmk _)
    simp only [Val.ids, Option.toList, List.mem_singleton, forall_eq]; exact ⟨this.1, this.2.1⟩
  · have := adv_fresh' ‹_ ∧ _ = _ :: _› (hmk _)
    refine ⟨this.1, fun x hx => ?_⟩
    rcases ids_withChild _ _ x hx with rfl | hx
    · exact this.2.1
    · exact this.2.2 x (hm x hx)

theorem template_adv (ann : Ann) (s0 : St) : ⦃fun s => ⌜s = s0⌝⦄ template ann ⦃ValPost s0⦄ := by
  induction ann generalizing s0 with
  | scalar t => mvcgen [template, mkLiteral_adv] <;> vc_ids
  | array inner ih => mvcgen [template, ih] <;> vc_ids
  | bareArray => mvcgen [template]; vc_ids

theorem bindParams_adv (fid : Id) (params : List (String × Ann)) (s0 : St) :
    ⦃fun s => ⌜s = s0⌝⦄ bindParams fid params
    ⦃post⟨fun r s => ⌜Adv s0 s ∧ (∀ x ∈ r.2, ∃ v, x = .val v ∧ ∀ i ∈ Val.ids v, Good s i) ∧ ∀ p ∈ r.1, Has s.ops p.1⌝,
          fun _ s => ⌜Adv s0 s⌝⟩⦄ := by
  induction params generalizing s0 with
  | nil => mvcgen [bindParams]; simp_all only [Adv.refl]; simp
  | cons p ps ih =>
    obtain ⟨pname, ann⟩ := p
    mvcgen [bindParams, template_adv, alloc_spec, put_spec, liftE_spec', ih]
    all_goals simp_all only [implies_true]
    all_goals expose_names
    -- h_1: the template; h_4: its record stored under the drawn id; h_5: the remaining parameters
    · obtain ⟨hp, hk, _⟩ := adv_fresh (op := .argRef pname fid r_2) h_4 (by simp [AstOp.children]) (by simp [mentions_argRef])
      have h15 := hp.trans h_5.1
      refine ⟨h_1.1.trans h15, fun x hx => ?_, fun p hp' => ?_⟩
      · rcases List.mem_cons.1 hx with rfl | hx
        · refine ⟨_, rfl, fun i hi => ?_⟩
          rcases ids_withChild _ _ i hi with rfl | hi
          · exact hk.mono h_5.1
          · exact (h_1.2 i hi).mono h15
        · exact h_5.2.1 x hx
      · rcases List.mem_cons.1 hp' with rfl | hp'
        · exact (hk.mono h_5.1).2
        · exact h_5.2.2 p hp'
    · exact fun h => h_1.1.trans ((adv_fresh (op := .argRef pname fid _) h_4 (by simp [AstOp.children])
        (by simp [mentions_argRef])).1.trans h)
    · rintro rfl; exact h_1.1.trans (adv_same (by omega) h_2.2.2)

section
variable (m : Mach) (hM : MachOK m)

/-- a command that stores under ids it draws itself -/
abbrev Goal (c : Cmd) : Prop :=
  ⦃fun s => ⌜s = m.st⌝⦄ exec m.regs m.frames c ⦃post⟨fun r s => ⌜Post m s r⌝, fun _ s => ⌜Adv m.st s⌝⟩⦄

/-- any command: accepted, it leaves a machine in order that has kept the records; rejected, it has stored under ids it
drew itself -/
abbrev GoalM (c : Cmd) : Prop :=
  ⦃fun s => ⌜s = m.st⌝⦄ exec m.regs m.frames c
  ⦃post⟨fun r s => ⌜MachOK ⟨s, m.regs ++ r.1, r.2⟩ ∧ Persist m.st s⌝, fun _ s => ⌜Adv m.st s⌝⟩⦄

include hM

theorem Goal.fresh {c : Cmd} (h : Goal m c) : GoalM m c := by
  mvcgen [h]
  exact hM.fresh

/-! what the readers return, in terms of the invariant: ids of values held by the registers are good -/

theorem good_reg {a : Nat} {v : Val} (h : m.regs[a]? = some (.val v)) : ∀ x ∈ Val.ids v, Good m.st x :=
  fun x hx => ⟨hM.regsLe _ (List.mem_of_getElem? h) x hx, hM.regsSto _ (List.mem_of_getElem? h) x hx⟩

theorem getVal_good (r : Reg) (s1 : St) : Reads (getVal m.regs r) s1 fun v => ∀ x ∈ Val.ids v, Good m.st x :=
  reads_mono (getVal_spec' m.regs r s1) fun _ => good_reg m hM

theorem getScalar_good (r : Reg) (s1 : St) : Reads (getScalar m.regs r) s1 fun x => Good m.st x.2.1 :=
  reads_mono (getScalar_spec m.regs r s1) fun _ h => good_reg m hM h _ (by simp [Val.ids])

theorem mapM_getVal_good (xs : List Reg) (s1 : St) :
    Reads (xs.mapM (getVal m.regs)) s1 fun vs => ∀ v ∈ vs, ∀ x ∈ Val.ids v, Good m.st x :=
  reads_mono (mapM_getVal_exact m.regs xs s1) fun _ h _ hv => let ⟨_, _, hg⟩ := All2.right h _ hv; good_reg m hM hg

theorem mapM_fields_good (fs : List (String × Reg)) (s1 : St) :
    Reads (fs.mapM (fun (p : String × Reg) => do pure (p.1, ← getVal m.regs p.2))) s1
      fun vs => ∀ v ∈ vs.map (·.2), ∀ x ∈ Val.ids v, Good m.st x :=
  reads_mono (mapM_fields_exact m.regs fs s1) fun _ h _ hv =>
    let ⟨q, hq, e⟩ := List.mem_map.1 hv
    let ⟨_, _, hg⟩ := All2.right h q hq
    e ▸ good_reg m hM hg.2

theorem fn_has {f : Nat} {fid : Id} {ret : STy} {ns : List String} (h : m.regs[f]? = some (.fn fid ret ns)) :
    Has m.st.ops fid :=
  hM.regsSto _ (List.mem_of_getElem? h) fid (by simp [RVal.sids])

/-- Symbolic execution of one command, the readers and helpers described by the specifications above (`ts`: those the
command needs beyond the common ones), followed by `vc_ids`.  What is left is the path on which the command stores.
(`-trivial -leave`: `mvcgen`'s own two simplification passes over every condition are dear and close none of them;
`vc_ids` reads the raw conditions — `SPred.down_pure`, `SPred.entails_nil` — itself.) -/
macro "exec_case" "[" ts:Lean.Parser.Tactic.simpLemma,* "]" : tactic =>
  `(tactic| (
    have hV := getVal_good m hM
    have hS := getScalar_good m hM
    have hVs := mapM_getVal_good m hM
    mvcgen -trivial -leave [exec, hV, hS, hVs, alloc_spec, put_spec, liftE_spec', childOf_mem, childIds_spec, $ts,*]
    all_goals clear hV hS hVs
    all_goals vc_ids))

/-- The path of a command that draws an id and stores a record under it (`adv_fresh`): what the record mentions was read
from registers, and the ids of the value bound are the new id or were read from registers.  `grind only`: the guards the
command evaluated are in the context and are of no use here. -/
macro "exec_put" : tactic =>
  `(tactic| (
    have hfn := @fn_has m hM
    obtain ⟨hadv, hk, hmono⟩ := adv_fresh ‹_ ∧ _ = _ :: _›
      (by grind only [AstOp.children, Good, List.mem_cons, List.not_mem_nil])
      (by grind only [Good, mentions_binary, mentions_unary, mentions_map, mentions_reduce, mentions_new, mentions_call,
            List.mem_cons, List.mem_append, List.not_mem_nil])
    grind only [Good]))

/-- `Input(..)`: the id drawn holds nothing, nothing being stored above the counter -/
theorem ex_inputObj (name doc p) : Goal m (.inputObj name doc p) := by
  exec_case []
  expose_names   -- h_2: the id drawn
  exact ⟨trivial, trivial, Nat.lt_succ_self _,
    (lookup_eq_of_ops _ _ h_2.2.2 _).trans (hM.idsLe.none_above (Nat.lt_succ_self _))⟩

/-- `k + a`: the literal, then the sum that mentions it -/
theorem ex_radd (k a) : Goal m (.radd k a) := by
  exec_case [mkLiteral_adv, scalarResult_adv]
  all_goals expose_names
  -- h_2: the operand read; h_4: the literal made; h_5: the sum stored
  · exact fun _ => h_2.2.mono h_4.1
  · exact h_4.1.trans h_5.1
  · exact h_4.1.trans

/-- the accessors: the member handed out is a member of the value read (`h_3`, found at `h_4`) -/
theorem ex_ntupleGet (t i) : Goal m (.ntupleGet t i) := by
  exec_case [genAccessor_adv]
  expose_names
  exact fun x hx => h_3.2.2 x (mem_vals_ids _ _ (List.mem_of_getElem? h_4) x hx)
theorem ex_objectGet (o key) : Goal m (.objectGet o key) := by
  exec_case [genAccessor_adv]
  expose_names
  exact fun x hx => h_4.2.2 x (mem_fields_ids _ _ _ (List.mem_of_find?_eq_some h_3) x hx)

/-- `nada_fn`, opening: the function's id is drawn (`h_1`), then the parameters are made (`h_2`) -/
theorem ex_beginFn (name params) : Goal m (.beginFn name params) := by
  exec_case [bindParams_adv]
  all_goals expose_names
  all_goals have ha : Adv m.st s_1 := adv_same (by omega) h_1.2.2
  · have hfid : s_2.lookup (m.st.counter + 1) = none := by
      rw [h_2.1.frame.2 _ (Nat.le_of_eq h_1.2.1.symm), lookup_eq_of_ops _ _ h_1.2.2]
      exact hM.idsLe.none_above (Nat.lt_succ_self _)
    exact ⟨ha.trans h_2.1, fun x hx => let ⟨v, e, hg⟩ := h_2.2.1 x hx; e ▸ rgood_val.2 hg,
      .inr ⟨_, rfl, Nat.lt_succ_self _, h_1.2.1 ▸ h_2.1.counter, hfid, h_2.2.2, fun x hx => let ⟨v, e, _⟩ := h_2.2.1 x hx; ⟨v, e⟩⟩⟩
  · exact ha.trans

/-- `T(Input(..))`: the input record goes (`h_3`) under the `Input` object's id (`h`), which was drawn when the object was
made, holds nothing or an input record (`MachOK.inputs`) and is the id of no bracket (`MachOK.disj`) -/
theorem ex_wrap (t r) : GoalM m (.wrap t r) := by
  exec_case []
  expose_names
  have hmem := List.mem_of_getElem? h
  exact hM.put h_3 (hM.regsLe _ hmem k (by simp [RVal.ids])) (by simp [AstOp.children]) (by simp [mentions_input])
    (fun o ho => ⟨hM.inputs _ _ _ _ hmem o ho, rfl⟩) (fun _ _ _ _ => rfl)
    (fun hk _ => rgood_val.2 (by simpa [Val.ids] using hk))
    (List.Sublist.refl _) (fun fr hfr e => hM.disj k _ _ _ hmem fr hfr e.symm)

/-- `Array(value, size=…)`: the input record found (`h_5`) under the value's id (`h_3`: one of the ids read, `h_2`) is
stored again (`h_6`); an id that holds a record is the id of no bracket (`MachOK.free`) -/
theorem ex_arrayOf (r sz) : GoalM m (.arrayOf r sz) := by
  exec_case []
  expose_names
  have hc := h_2.2 _ h_3.2
  refine hM.put h_6 hc.1 (by simp [AstOp.children]) (by simp [mentions_input])
    (fun o ho => by rw [h_5] at ho; cases ho; exact ⟨rfl, rfl⟩) (fun _ _ _ _ => rfl)
    (fun _ hmono => rgood_val.2 fun i hi => hmono i ?_)
    (List.Sublist.refl _) (fun fr hfr e => by have := (hM.free fr hfr).1; rw [e, h_5] at this; cases this)
  simp only [Val.ids, Elem.ids, Option.toList, List.mem_cons, List.not_mem_nil, or_false, List.mem_append] at hi
  rcases hi with rfl | hi
  · exact hc
  · exact h_2.2 i hi

/-- `nada_fn`, closing: the function record goes (`h_7`) under the id drawn at the opening, which holds nothing
(`MachOK.free`) and is the id of no `Input` object (`MachOK.disj`) and of no other bracket (`MachOK.nodup`); it mentions the
returned operation (`h_1`) and the parameters of the innermost bracket (`h`) -/
theorem ex_endFn (ret retAnn) : GoalM m (.endFn ret retAnn) := by
  exec_case []
  expose_names
  have hmem : fr ∈ m.frames := h ▸ List.mem_cons_self
  have hfree := hM.free fr hmem
  have hnd := hM.nodup
  rw [h, List.map_cons, List.nodup_cons] at hnd
  refine hM.put h_7 hfree.2 (by simp [AstOp.children]) ?_ (fun o ho => by rw [hfree.1] at ho; cases ho)
    (fun n p d hr => absurd rfl (hM.disj _ n p d hr fr hmem)) (fun hk _ => rgood_fn.2 hk.2)
    (h ▸ List.sublist_cons_self _ _) (fun fr' hfr' e => hnd.1 (List.mem_map.2 ⟨fr', hfr', e⟩))
  simp only [mentions_function, List.mem_cons, List.mem_map]
  rintro x (rfl | ⟨p, hp, rfl⟩)
  · exact (good_reg m hM h_1 _ (by simp [Val.ids])).2
  · exact hM.framesSto fr hmem p hp

/-- **Every command**, run from a machine in order: accepted, it leaves a machine in order — whatever the new registers
and the new function bracket hold is drawn and stored — in which every record stored before is kept; rejected, it has
advanced the store under ids it drew itself. -/
theorem exec_ok (c : Cmd) : GoalM m c := by
  cases c with
  | wrap t r => exact ex_wrap m hM t r
  | arrayOf r sz => exact ex_arrayOf m hM r sz
  | endFn ret retAnn => exact ex_endFn m hM ret retAnn
  | nop | party => refine Goal.fresh m hM ?_; exec_case []
  | lit => refine Goal.fresh m hM ?_; exec_case [mkLiteral_adv]
  | bin | invert | reveal | truncPr | publicEquals | ifElse | random => refine Goal.fresh m hM ?_; exec_case [scalarResult_adv]
  | zip | unzip | innerProduct | map | reduce | tupleNew | ntupleNew | call => refine Goal.fresh m hM ?_; exec_case []; exec_put
  | arrayNew => refine Goal.fresh m hM ?_; exec_case [mapM_toMir_exact]; exec_put
  | objectNew fs =>
    have hFs := mapM_fields_good m hM
    refine Goal.fresh m hM ?_; exec_case [hFs]; exec_put
  | inputObj name doc p => exact Goal.fresh m hM (ex_inputObj m hM name doc p)
  | radd k a => exact Goal.fresh m hM (ex_radd m hM k a)
  | ntupleGet t i => exact Goal.fresh m hM (ex_ntupleGet m hM t i)
  | objectGet o key => exact Goal.fresh m hM (ex_objectGet m hM o key)
  | beginFn name params => exact Goal.fresh m hM (ex_beginFn m hM name params)
end

/-- One step from a machine in order: the machine left is in order and has kept the records.  A rejected command has
stored under ids it drew itself; it binds dead registers, and leaves the innermost bracket if it was its `endFn`. -/
theorem step_inv (m : Mach) (c : Cmd) (h : MachOK m) : MachOK (step m c).1 ∧ Persist m.st (step m c).1.st := by
  have hx := triple_run _ m.st _ _ (exec_ok m h c)
  unfold step
  generalize (exec m.regs m.frames c).run.run m.st = r at hx ⊢
  obtain ⟨_ | ⟨vals, frames'⟩, s'⟩ := r
  · refine h.fresh (r := (List.replicate c.arity .dead, _)) ⟨hx, fun x hx => ?_, .inl ?_⟩
    · rw [List.eq_of_mem_replicate hx]; simp [RGood, RVal.ids, RVal.sids]
    · cases c <;> first | exact List.Sublist.refl _ | exact List.drop_sublist _ _
  · exact hx

theorem step_ok (m : Mach) (c : Cmd) (h : MachOK m) : MachOK (step m c).1 := (step_inv m c h).1

theorem runCmds_inv (cs : List Cmd) : ∀ (m : Mach), MachOK m → MachOK (runCmds m cs).1 ∧ Persist m.st (runCmds m cs).1.st := by
  induction cs with
  | nil => exact fun m h => ⟨h, Persist.refl _⟩
  | cons c cs ih =>
    intro m h
    have h1 := step_inv m c h
    have h2 := ih _ h1.1
    exact ⟨h2.1, h1.2.trans h2.2⟩

theorem runCmds_ok (cs : List Cmd) (m : Mach) (h : MachOK m) : MachOK (runCmds m cs).1 := (runCmds_inv cs m h).1

/-- **Whatever program is traced**, the machine it leaves is in order. -/
theorem trace_ok (cs : List Cmd) : MachOK (runCmds {} cs).1 := runCmds_ok cs {} machOK_init

/-- **What was recorded stays recorded — whatever is traced**: after any command list `cs`, whatever continuation `more`
is traced (accepted, rejected and aborted commands alike), every operation record of the store is unchanged and every
input record is still an input record. -/
theorem trace_persist (cs more : List Cmd) : Persist (runCmds {} cs).1.st (runCmds (runCmds {} cs).1 more).1.st :=
  (runCmds_inv more _ (trace_ok cs)).2

/-- **Whatever program is traced — any command list, any mixture of accepted and rejected commands, aborted
function bodies included — the store it leaves has every operand id smaller than the id of the operation that
mentions it** (the hypothesis of `C01.compile_acyclic`). -/
theorem trace_storeWF (cs : List Cmd) : storeWF (runCmds {} cs).1.st = true :=
  (storeWF_iff _).2 (trace_ok cs).wf

end NadaVerif.Lemmas
