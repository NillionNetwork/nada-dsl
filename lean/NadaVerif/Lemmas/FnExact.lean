/-
Function references resolve to exactly one emitted function (C01, C09, C11) — for every store and
every output list.

`FnCov t K`: every `fn` / `function_id` reference of table `t` names an id of `K`.
Through `traverse` (new references are known or reported as extra), `compileOutputs` (extras are
merged after each output) and the worklist `emitFunctions` (a known function is either emitted or
still on the stack, never both, never twice) this gives `compile_fn_cov`.  Also here: the functions found are store
records (`FromStore`, for `Lemmas/NoMissing.lean` and `Lemmas/Fuel.lean`).
-/
import NadaVerif.Lemmas.Proc
import NadaVerif.Lemmas.Tables

namespace NadaVerif.Lemmas
open NadaVerif NadaVerif.Spec

def FnCov (t : Table) (K : List Id) : Prop := ∀ e ∈ t, ∀ f, e.2.fnRef = some f → f ∈ K

theorem FnCov.mono {t : Table} {K K' : List Id} (h : FnCov t K) (hk : ∀ k ∈ K, k ∈ K') : FnCov t K' :=
  fun e he f hf => hk f (h e he f hf)

theorem FnCov.nil (K : List Id) : FnCov [] K := fun _ h => nomatch h

theorem keys_upsertFn (f : Id × AstOp) (extra : Table) :
    keys (upsertFn f extra) = if f.1 ∈ keys extra then keys extra else keys extra ++ [f.1] := by
  rw [upsertFn_eq]; exact map_key_upsertBy extra

theorem mem_keys_upsertFn {f : Id × AstOp} {x : Table} {k : Id} : k ∈ keys (upsertFn f x) ↔ k ∈ keys x ∨ k = f.1 := by
  rw [keys_upsertFn]
  split
  · exact ⟨.inl, fun h => h.elim id (· ▸ ‹_›)⟩
  · simp only [List.mem_append, List.mem_singleton]

theorem nodup_keys_upsertFn {f : Id × AstOp} {x : Table} (h : (keys x).Nodup) : (keys (upsertFn f x)).Nodup := by
  rw [keys_upsertFn]
  split
  · exact h
  · exact nodup_append_singleton h ‹_›

/-- new function references are known or reported; what is reported is new and reported once -/
theorem traverse_fn {st : St} {fns : Table} {fuel s t x a t' x' a'}
    (h : traverse st fns fuel s t x a = .ok (t', x', a'))
    (hc : FnCov t (keys fns ++ keys x)) (hn : (keys x).Nodup) (hd : ∀ k ∈ keys x, k ∉ keys fns) :
    FnCov t' (keys fns ++ keys x') ∧ (keys x').Nodup ∧ ∀ k ∈ keys x', k ∉ keys fns := by
  refine traverse_inv
    (fun _ t x _ => FnCov t (keys fns ++ keys x) ∧ (keys x).Nodup ∧ ∀ k ∈ keys x, k ∉ keys fns)
    (fun _ _ _ _ _ _ h => h) ?_ h ⟨hc, hn, hd⟩
  rintro k _ t x a op a' ex - hop hp ⟨hc, hn, hd⟩
  obtain ⟨hknown, hnew⟩ := fnOp_ok hop (processOp_ok hp).2
  have hsub : ∀ k', k' ∈ keys x → k' ∈ keys (addExtra ex x) := by
    cases ex with
    | none => exact fun _ h => h
    | some p => exact fun _ h => mem_keys_upsertFn.2 (.inl h)
  refine ⟨forall_mem_snoc (fun e he f hf => ?_) fun f hf => ?_, ?_, ?_⟩
  · exact (List.mem_append.1 (hc e he f hf)).elim (List.mem_append_left _) fun h => List.mem_append_right _ (hsub f h)
  · rcases hknown f hf with h | ⟨p, rfl, rfl⟩
    · exact List.mem_append_left _ h
    · exact List.mem_append_right _ (mem_keys_upsertFn.2 (.inr rfl))
  · cases ex with
    | none => exact hn
    | some p => exact nodup_keys_upsertFn hn
  · cases ex with
    | none => exact hd
    | some p => exact fun k' hk' => (mem_keys_upsertFn.1 hk').elim (hd k') fun e => e ▸ (hnew p rfl).1

theorem keys_mergeFns (extra : Table) : ∀ (fs : Table), (keys extra).Nodup → (∀ k ∈ keys extra, k ∉ keys fs) →
    keys (mergeFns fs extra) = keys fs ++ keys extra := by
  induction extra with
  | nil => intro fs _ _; simp [mergeFns, keys]
  | cons g gs ih =>
    intro fs hn hd
    have hg : g.1 ∉ keys fs := hd g.1 (by simp [keys])
    simp only [keys, List.map_cons, List.nodup_cons, List.mem_cons, forall_eq_or_imp] at hn hd
    have hk : keys (upsertFn g fs) = keys fs ++ [g.1] := by rw [keys_upsertFn, if_neg hg]
    have := ih (upsertFn g fs) hn.2 (by
      intro k hk' hc
      rw [hk] at hc
      rcases List.mem_append.1 hc with h1 | h1
      · exact hd.2 k hk' h1
      · cases List.mem_singleton.1 h1; exact hn.1 hk')
    simp only [mergeFns, List.foldl_cons] at this ⊢
    rw [this, hk]; simp [keys]

/-- after the outputs: every function reference of the program table is a known function; known ids are distinct -/
theorem compileOutputs_fn {st : St} {outs t fs mo a t' fs' mo' a'}
    (h : compileOutputs st outs t fs mo a = .ok (t', fs', mo', a'))
    (hc : FnCov t (keys fs)) (hn : (keys fs).Nodup) : FnCov t' (keys fs') ∧ (keys fs').Nodup := by
  refine compileOutputs_inv (fun _ t fs _ _ => FnCov t (keys fs) ∧ (keys fs).Nodup) ?_ h ⟨hc, hn⟩
  rintro o os t fs mo a t' ex a' op htr - ⟨hc, hn⟩
  obtain ⟨hcov, hnd, hnew⟩ := traverse_fn htr (by simpa [keys] using hc) (by simp [keys]) (by simp [keys])
  rw [keys_mergeFns ex fs hnd hnew]
  exact ⟨hcov, List.nodup_append.2 ⟨hn, hnd, fun x hx y hy hxy => hnew y hy (hxy ▸ hx)⟩⟩

theorem nodup_insert_block (A X E : List Id) (k : Id) (h : (A ++ k :: X).Nodup) (hE : E.Nodup)
    (hd : ∀ y ∈ E, y ∉ A ∧ y ≠ k ∧ y ∉ X) : (A ++ [k] ++ (E.reverse ++ X)).Nodup := by
  have hp : (A ++ [k] ++ (E.reverse ++ X)).Perm ((A ++ k :: X) ++ E) := by
    have h1 : (E.reverse ++ X).Perm (X ++ E) := (List.reverse_perm E).append_right X |>.trans List.perm_append_comm
    have h2 : (A ++ [k] ++ (E.reverse ++ X)).Perm (A ++ [k] ++ (X ++ E)) := h1.append_left _
    simpa [List.append_assoc] using h2
  refine List.Perm.nodup hp.symm ?_
  rw [List.nodup_append]
  refine ⟨h, hE, ?_⟩
  rintro a ha b hb rfl
  have := hd a hb
  simp only [List.mem_append, List.mem_cons] at ha
  rcases ha with ha | ha | ha
  · exact this.1 ha
  · exact this.2.1 ha
  · exact this.2.2 ha

/-- The invariant of `emitFunctions`' worklist: the functions known (`functions`) are those emitted (`out`) or waiting
(`stack`), none twice, and every function reference of the program table and of an emitted function is known. -/
structure WL (prog : Table) (stack functions : Table) (out : List MirFn) : Prop where
  nodup : (out.map (·.id) ++ keys stack).Nodup
  known : ∀ k, k ∈ keys functions ↔ (k ∈ out.map (·.id) ∨ k ∈ keys stack)
  cov : FnCov prog (keys functions)
  covOut : ∀ f ∈ out, FnCov f.ops (keys functions)

theorem emitFunctions_fn {st : St} {prog : Table} {fuel s fs out a out' a'}
    (h : emitFunctions st fuel s fs out a = .ok (out', a')) (w : WL prog s fs out) :
    (out'.map (·.id)).Nodup ∧ FnCov prog (out'.map (·.id)) ∧ ∀ f ∈ out', FnCov f.ops (out'.map (·.id)) := by
  have step : ∀ k n as c ty xs fs out a t ex a' args, traverse st fs st.fuel [c] [] [] a = .ok (t, ex, a') →
      as.mapM (argOf st) = .ok args → WL prog ((k, .function n as c ty) :: xs) fs out →
      WL prog (ex.reverse ++ xs) (mergeFns fs ex)
        (out ++ [{ id := k, args := args, name := n, returnOp := c, ops := t, returnType := ty }]) := by
    rintro k n as c ty xs fs out a t ex a' args htr - w
    obtain ⟨ha, hnd', hnew⟩ := traverse_fn htr (FnCov.nil _) (by simp [keys]) (by simp [keys])
    have hk := keys_mergeFns ex fs hnd' hnew
    have hsub : ∀ y ∈ keys fs, y ∈ keys (mergeFns fs ex) := fun y hy => hk ▸ List.mem_append_left _ hy
    have hkx : ∀ y ∈ keys ex, y ∉ out.map (·.id) ∧ y ≠ k ∧ y ∉ keys xs := by
      intro y hy
      have hny := hnew y hy
      refine ⟨fun h1 => hny ((w.known y).2 (.inl h1)), ?_, fun h1 => hny ((w.known y).2 (.inr (by simp [keys] at h1 ⊢; exact .inr h1)))⟩
      rintro rfl
      exact hny ((w.known y).2 (.inr (by simp [keys])))
    refine ⟨?_, ?_, w.cov.mono hsub, ?_⟩
    · have hnd := w.nodup
      simp only [keys, List.map_cons] at hnd
      have := nodup_insert_block (out.map (·.id)) (keys xs) (keys ex) k hnd hnd' hkx
      simpa [keys, List.map_append, List.map_reverse, List.append_assoc] using this
    · intro y
      have := w.known y
      simp only [keys, List.map_cons, List.mem_cons] at this
      rw [hk]
      simp only [keys, List.map_append, List.map_cons, List.map_nil, List.mem_append, List.mem_cons,
        List.map_reverse, List.mem_reverse, List.not_mem_nil, false_or, this, or_assoc, or_left_comm, or_comm]
    · exact forall_mem_snoc (fun g hg => (w.covOut g hg).mono hsub) (hk ▸ ha)
  obtain ⟨fs', w⟩ := emitFunctions_inv (fun s fs out _ => WL prog s fs out) step h w
  -- the worklist is empty: the known functions are the emitted ones
  have hk : ∀ k ∈ keys fs', k ∈ out'.map (·.id) := fun k hk => ((w.known k).1 hk).resolve_right (by simp [keys])
  exact ⟨by simpa [keys] using w.nodup, w.cov.mono hk, fun f hf => (w.covOut f hf).mono hk⟩

/-- a function reported by a visit is reported with its store record (`fnOp_ok`) -/
theorem traverse_extra_fromStore {st : St} {fns : Table} {fuel s t x a t' x' a'}
    (h : traverse st fns fuel s t x a = .ok (t', x', a')) (hx : FromStore st x) : FromStore st x' := by
  refine traverse_inv (fun _ _ x _ => FromStore st x) (fun _ _ _ _ _ _ h => h) ?_ h hx
  rintro _ _ _ _ _ _ _ ex _ hop hp hx
  cases ex with
  | none => exact hx
  | some p =>
    intro e he
    rw [addExtra, upsertFn_eq] at he
    rcases mem_upsertBy he with rfl | he
    · exact ((fnOp_ok hop (processOp_ok hp).2).2 _ rfl).2
    · exact hx e he

theorem fromStore_mergeFns {st : St} {fs extra : Table} (hf : FromStore st fs) (he : FromStore st extra) :
    FromStore st (mergeFns fs extra) :=
  fun e h => (mem_mergeFns h).elim (hf e) (he e)

theorem traverse_fns_fromStore {st : St} {fs : Table} {fuel s t a t' x' a'}
    (h : traverse st fs fuel s t [] a = .ok (t', x', a')) (hf : FromStore st fs) : FromStore st (mergeFns fs x') :=
  fromStore_mergeFns hf (traverse_extra_fromStore h (fun _ h => nomatch h))

theorem compileOutputs_fns_fromStore {st : St} {outs t fs mo a t' fs' mo' a'}
    (h : compileOutputs st outs t fs mo a = .ok (t', fs', mo', a')) (hf : FromStore st fs) : FromStore st fs' :=
  compileOutputs_inv (fun _ _ fs _ _ => FromStore st fs)
    (fun _ _ _ _ _ _ _ _ _ _ htr _ hf => traverse_fns_fromStore htr hf) h hf

/-- No function is listed twice, and every function reference — of the program table and of every function's own table —
names a listed function. -/
theorem compile_fn_cov {st : St} {outs : List OutDecl} {m : MirProg} (h : compile st outs = .ok m) :
    (m.functions.map (·.id)).Nodup ∧ ∀ t ∈ allTables m, FnCov t (m.functions.map (·.id)) := by
  obtain ⟨t, fs, mo, a, fns, a2, hco, hef, rfl⟩ := compile_ok h
  obtain ⟨hc, hn⟩ := compileOutputs_fn hco (FnCov.nil _) (by simp [keys])
  have w : WL t fs.reverse fs [] :=
    ⟨by simpa [keys, List.map_reverse] using (List.reverse_perm _).symm.nodup hn, by simp [keys, List.map_reverse], hc, nofun⟩
  obtain ⟨hnd, hprog, hfns⟩ := emitFunctions_fn hef w
  exact ⟨hnd, forall_allTables.2 ⟨hprog, hfns⟩⟩

end NadaVerif.Lemmas
