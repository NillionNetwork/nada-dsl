/- What the closed-form scalar rules of `Scalar.lean` return, stated once for all operators. -/
import NadaVerif.Scalar
namespace NadaVerif

theorem STy.mem_all (t : STy) : t ∈ STy.all := by
  obtain ⟨m, b⟩ := t; cases m <;> cases b <;> decide

theorem BinOp.mem_all (op : BinOp) : op ∈ BinOp.all := by
  cases op <;> decide

theorem Mode.rank_le_max_left (a b : Mode) : a.rank ≤ (Mode.max a b).rank := by
  unfold Mode.max; split <;> omega

theorem Mode.rank_le_max_right (a b : Mode) : b.rank ≤ (Mode.max a b).rank := by
  unfold Mode.max; split <;> omega

theorem Mode.rank_le_sec (m : Mode) : m.rank ≤ Mode.sec.rank := by cases m <;> decide

theorem Mode.max_eq_const {a b : Mode} : Mode.max a b = .const ↔ a = .const ∧ b = .const := by
  cases a <;> cases b <;> decide

theorem Base.isNumeric_eq_false {b : Base} : b.isNumeric = false ↔ b = .bool := by cases b <;> decide

/-- An accepted binary application returns the larger mode; the left base, or `bool` for the comparing and logical
operators; and is folded iff that mode is `const`. -/
theorem typeBin_ok {op : BinOp} {l r t : STy} {f : Bool} (h : typeBin op l r = .ok t f) :
    t = ⟨Mode.max l.mode r.mode, match op.cls with | .rel | .eqop | .logic => .bool | _ => l.base⟩ ∧
    f = (Mode.max l.mode r.mode == .const) := by
  unfold typeBin at h
  cases hc : op.cls <;> simp only [hc] at h ⊢ <;> split at h <;> try contradiction
  case power => split at h <;> cases h <;> simp_all  -- the one rule that does not go through `okMax`
  all_goals cases h; exact ⟨rfl, rfl⟩

end NadaVerif
