/-
What `St.lookup` returns: the store is an association list, newest binding first.  `Has ops k`: some record is filed
under `k`.  Used by the lemmas about the trace (`TraceInv`, `Typed…`, `Shift`) and about the compile model alike.
-/
import NadaVerif.Trace

namespace NadaVerif.Lemmas
open NadaVerif

def Has (ops : List (Id × AstOp)) (x : Id) : Prop := ∃ op, (x, op) ∈ ops

theorem Has_nil (x : Id) : Has [] x ↔ False := by simp [Has]

theorem Has_cons (k : Id) (op : AstOp) (ops : List (Id × AstOp)) (x : Id) :
    Has ((k, op) :: ops) x ↔ (x = k ∨ Has ops x) := by
  simp only [Has, List.mem_cons, Prod.mk.injEq]
  constructor
  · rintro ⟨o, (⟨rfl, rfl⟩ | h)⟩
    · exact .inl rfl
    · exact .inr ⟨o, h⟩
  · rintro (rfl | ⟨o, h⟩)
    · exact ⟨op, .inl ⟨rfl, rfl⟩⟩
    · exact ⟨o, .inr h⟩

theorem lookup_mem (st : St) (k : Id) (op : AstOp) (h : st.lookup k = some op) : (k, op) ∈ st.ops := by
  simp only [St.lookup, Option.map_eq_some_iff] at h
  obtain ⟨e, he, rfl⟩ := h
  have hk : e.1 = k := by simpa using List.find?_some he
  exact hk ▸ List.mem_of_find?_eq_some he

theorem lookup_some_has (s : St) (k : Id) (op : AstOp) (h : s.lookup k = some op) : Has s.ops k :=
  ⟨op, lookup_mem s k op h⟩

theorem has_lookup (s : St) (k : Id) (h : Has s.ops k) : ∃ op, s.lookup k = some op := by
  obtain ⟨op, hm⟩ := h
  cases hl : s.lookup k with
  | some o => exact ⟨o, rfl⟩
  | none =>
    simp only [St.lookup, Option.map_eq_none_iff, List.find?_eq_none] at hl
    simpa using hl _ hm

theorem not_has_of_none {s : St} {k : Id} (h : s.lookup k = none) : ¬ Has s.ops k := fun hh => by
  obtain ⟨op, ho⟩ := has_lookup s k hh
  rw [h] at ho; cases ho

theorem lookup_none_of_not_has (s : St) (k : Id) (h : ¬ Has s.ops k) : s.lookup k = none := by
  cases hl : s.lookup k with
  | none => rfl
  | some op => exact absurd (lookup_some_has s k op hl) h

theorem lookup_put {s0 s : St} {k : Id} {op : AstOp} (ho : s.ops = (k, op) :: s0.ops) (x : Id) :
    s.lookup x = if x = k then some op else s0.lookup x := by
  simp only [St.lookup, ho, List.find?_cons]
  by_cases h : x = k
  · simp [h]
  · have : (k == x) = false := by simpa using fun e => h e.symm
    simp [this, h]

theorem lookup_head {s : St} {k : Id} {op : AstOp} {ops : List (Id × AstOp)} (ho : s.ops = (k, op) :: ops) :
    s.lookup k = some op := by
  simp [St.lookup, ho]

theorem lookup_eq_of_ops (s t : St) (h : s.ops = t.ops) (k : Id) : s.lookup k = t.lookup k := by
  simp [St.lookup, h]

end NadaVerif.Lemmas
