/-
Typed store — what the invariant says of a store, and how a store may change.

`StoreInv s`   : stored ids are at most the counter, and every visible record is edge-consistent
                 (`Edge.edgeOK`: its recorded type is the one its operands' recorded types determine).
`Weak s w`     : the value `w` held by a register points at a stored record whose type is `w.to_mir()`,
                 unless that record is an input record (which `Array(T(Input), size)` re-types).
`Agree s w`    : the same without the exception — required of the registers a command reads.
`Step s0 s`    : `s` is in order and differs from `s0` under fresh ids only.

No monad here: `storeInv_put` is the one argument (a record stored under an id that nothing mentions cannot disturb the
edge of another record, `edgeOK_congr`).
-/
import NadaVerif.Spec.Edge
import NadaVerif.Lemmas.Invariant

namespace NadaVerif.Lemmas
open NadaVerif NadaVerif.Edge

def EdgesOK (s : St) : Prop := ∀ k op, s.lookup k = some op → edgeOK (tyAtS s) (fnTyS s) op = true
def StoreInv (s : St) : Prop := IdsLe s ∧ EdgesOK s

def Agree (s : St) (w : Val) : Prop := ∀ c, w.child = some c → ∃ op, s.lookup c = some op ∧ w.toMir = .ok op.ty
def Weak (s : St) (w : Val) : Prop :=
  ∀ c, w.child = some c → ∃ op, s.lookup c = some op ∧ (op.isInput = true ∨ w.toMir = .ok op.ty)

theorem Agree.weak {s : St} {w : Val} (h : Agree s w) : Weak s w :=
  fun c hc => let ⟨op, h1, h2⟩ := h c hc; ⟨op, h1, .inr h2⟩

/-- What the invariant says about one register.  An `Input` object's id holds nothing or an input record: what lets
`T(Input)` store under it. -/
def RegTyped (s : St) : RVal → Prop
  | .val v => ∀ w ∈ v.live, Weak s w
  | .fn fid ret _ => ∃ n a c, s.lookup fid = some (.function n a c (.scalar ret.mirName))
  | .input k _ _ _ => s.lookup k = none ∨ ∃ op, s.lookup k = some op ∧ op.isInput = true
  | _ => True

/-- a value held by a register stays typed as long as the records are kept -/
theorem Weak.persist {s s' : St} {w : Val} (h : Weak s w) (hp : Persist s s') : Weak s' w := by
  intro c hc
  obtain ⟨op, h1, h2⟩ := h c hc
  cases hi : op.isInput with
  | false => exact ⟨op, (hp c op h1).1 hi, h2⟩
  | true => obtain ⟨op', h3, h4⟩ := (hp c op h1).2 hi; exact ⟨op', h3, .inl h4⟩

theorem tysOf_congr (f g : Id → Option MTy) : ∀ (es : List Id), (∀ e ∈ es, f e = g e) → tysOf f es = tysOf g es
  | [], _ => rfl
  | e :: es, h => by
    simp only [tysOf]
    rw [h e (by simp), tysOf_congr f g es (fun x hx => h x (by simp [hx]))]

theorem edgeOK_congr (f g f' g' : Id → Option MTy) (op : AstOp)
    (h1 : ∀ c ∈ op.mentions, f c = f' c) (h2 : ∀ c ∈ op.mentions, g c = g' c) :
    edgeOK f g op = edgeOK f' g' op := by
  cases op with
  | random | input | literal | argRef => rfl
  | new n es ty =>
    simp only [mentions_new] at h1
    simp only [edgeOK, tysOf_congr f f' es h1]
  | call as fn ty =>
    simp only [mentions_call, List.mem_append, List.mem_singleton] at h1 h2
    simp only [edgeOK, tysOf_congr f f' as fun e he => h1 e (.inl he), h2 fn (.inr rfl)]
  | _ =>
    -- every other kind looks `f`, `g` up at single ids it mentions: the hypotheses become equations, and these rewrite
    simp only [mentions_binary, mentions_unary, mentions_ifElse, mentions_reduce, mentions_map, mentions_function,
      mentions_ntupleAcc, mentions_objectAcc, List.mem_cons, List.not_mem_nil, or_false, forall_eq_or_imp, forall_eq] at h1 h2
    simp only [edgeOK, h1, h2]

theorem tyAtS_eq {s t : St} {k : Id} (h : t.lookup k = s.lookup k) : tyAtS t k = tyAtS s k := by simp [tyAtS, h]
theorem fnTyS_eq {s t : St} {k : Id} (h : t.lookup k = s.lookup k) : fnTyS t k = fnTyS s k := by rw [fnTyS, fnTyS, h]

/-- no stored record mentions `k` -/
def Unref (s : St) (k : Id) : Prop := ∀ e ∈ s.ops, k ∉ e.2.mentions

theorem not_mem_of_none {s : St} {k : Id} {l : List Id} (hk : s.lookup k = none) (hl : ∀ x ∈ l, Has s.ops x) : k ∉ l :=
  fun h => not_has_of_none hk (hl k h)

theorem unref_of_none {s : St} {k : Id} (hcl : StoL s.ops) (hk : s.lookup k = none) : Unref s k :=
  fun e he => not_mem_of_none hk (hcl.closed e he)

/-- Storing a record under an id that no stored record mentions keeps the store invariant, provided the record is
edge-consistent with the store it is put into: no other record's edges look at `k`. -/
theorem storeInv_put {s0 s : St} {k : Nat} {op : AstOp} (ho : s.ops = (k, op) :: s0.ops) (hc : s0.counter ≤ s.counter)
    (hk : k ≤ s.counter) (hS : StoreInv s0) (hu : Unref s0 k) (hkm : k ∉ op.mentions)
    (he : edgeOK (tyAtS s0) (fnTyS s0) op = true) : StoreInv s := by
  have hlk : ∀ x, x ≠ k → s.lookup x = s0.lookup x := fun x hx => by rw [lookup_put ho, if_neg hx]
  have hcongr : ∀ o : AstOp, k ∉ o.mentions → edgeOK (tyAtS s) (fnTyS s) o = edgeOK (tyAtS s0) (fnTyS s0) o := fun o hn =>
    edgeOK_congr _ _ _ _ o (fun c hc => tyAtS_eq (hlk c fun e => hn (e ▸ hc))) (fun c hc => fnTyS_eq (hlk c fun e => hn (e ▸ hc)))
  refine ⟨hS.1.put ho hc hk, fun x o hx => ?_⟩
  rw [lookup_put ho] at hx
  split at hx
  · cases hx; rw [hcongr _ hkm]; exact he
  · rw [hcongr o (hu (x, o) (lookup_mem s0 x o hx))]; exact hS.2 x o hx

theorem storeInv_congr {s t : St} (ho : t.ops = s.ops) (hc : s.counter ≤ t.counter) (h : StoreInv s) : StoreInv t := by
  have hl : ∀ k, t.lookup k = s.lookup k := lookup_eq_of_ops t s ho
  refine ⟨fun e he => Nat.le_trans (h.1 e (ho ▸ he)) hc, fun k op hk => ?_⟩
  rw [hl] at hk
  rw [edgeOK_congr _ _ (tyAtS s) (fnTyS s) op (fun c _ => tyAtS_eq (hl c)) (fun c _ => fnTyS_eq (hl c))]
  exact h.2 k op hk

/-- post-state of a command that only stores under fresh ids -/
def Step (s0 s : St) : Prop := StoreInv s ∧ StoL s.ops ∧ FrameRel s0 s

section
variable {s0 s : St} (h : Step s0 s)
include h
theorem Step.inv : StoreInv s := h.1
theorem Step.sto : StoL s.ops := h.2.1
theorem Step.counter : s0.counter ≤ s.counter := h.2.2.1
theorem Step.same : ∀ k, k ≤ s0.counter → s.lookup k = s0.lookup k := h.2.2.2
end

theorem Step.refl (s : St) (h : StoreInv s) (h' : StoL s.ops) : Step s s := ⟨h, h', FrameRel.refl s⟩
theorem Step.trans {a b c : St} (h1 : Step a b) (h2 : Step b c) : Step a c := ⟨h2.inv, h2.sto, h1.2.2.trans h2.2.2⟩
theorem Step.right {a b : St} (h : Step a b) : Step b b := Step.refl b h.inv h.sto

theorem step_same_ops {s0 s : St} (ho : s.ops = s0.ops) (hc : s0.counter ≤ s.counter)
    (hS : StoreInv s0) (hcl : StoL s0.ops) : Step s0 s :=
  ⟨storeInv_congr ho hc hS, ho ▸ hcl, hc, fun k _ => lookup_eq_of_ops s s0 ho k⟩

theorem Has_mono_step {s0 s : St} (h : Step s0 s) (hS : StoreInv s0) {c : Id} (hc : Has s0.ops c) : Has s.ops c := by
  obtain ⟨op, hl⟩ := has_lookup s0 c hc
  exact lookup_some_has s c op (by rw [h.same c (hS.1.lookup_le hl)]; exact hl)

theorem agree_step {s0 s : St} {v : Val} (h : Step s0 s) (hS : StoreInv s0) (ha : Agree s0 v) : Agree s v := by
  intro c hc
  obtain ⟨op, h1, h2⟩ := ha c hc
  exact ⟨op, by rw [h.same c (hS.1.lookup_le h1)]; exact h1, h2⟩

/-- a read register agrees with the store: its type is the recorded one -/
theorem agree_tyAt {s : St} {v : Val} {c : Id} {t : MTy} (h : Agree s v) (hc : v.child = some c) (ht : v.toMir = .ok t) :
    tyAtS s c = some t := by
  obtain ⟨op, h1, h2⟩ := h c hc
  rw [ht] at h2; cases h2
  simp [tyAtS, h1]

theorem Agree.isSome {s : St} {v : Val} {c : Id} (h : Agree s v) (hc : v.child = some c) : (tyAtS s c).isSome = true := by
  obtain ⟨op, h1, -⟩ := h c hc
  simp [tyAtS, h1]

theorem tyAt_has {s : St} {c : Id} (h : (tyAtS s c).isSome = true) : Has s.ops c := by
  cases hl : s.lookup c with
  | none => simp [tyAtS, hl] at h
  | some op => exact lookup_some_has s c op hl

theorem tyAt_step {s0 s : St} {c : Id} {t : MTy} (h : Step s0 s) (hS : StoreInv s0) (ht : tyAtS s0 c = some t) :
    tyAtS s c = some t := by
  obtain ⟨op, hl⟩ := has_lookup s0 c (tyAt_has (by simp [ht]))
  rw [tyAtS_eq (h.same c (hS.1.lookup_le hl)), ht]

/-- The common shape "draw an id, store a record under it, return a value pointing at it": the id held nothing, so no
stored record mentions it and the record does not mention itself. -/
theorem post_put_fresh {s0 s2 : St} {op : AstOp} {v : Val}
    (h1 : s2.counter = s0.counter + 1 ∧ s2.ops = (s0.counter + 1, op) :: s0.ops)
    (hS : StoreInv s0) (hcl : StoL s0.ops)
    (hm : ∀ x ∈ op.mentions, Has s0.ops x)
    (he : edgeOK (tyAtS s0) (fnTyS s0) op = true)
    (hv : v.child = some (s0.counter + 1)) (hty : v.toMir = .ok op.ty) :
    Step s0 s2 ∧ Agree s2 v := by
  obtain ⟨hc, ho⟩ := h1
  have hnone := hS.1.none_above (Nat.lt_succ_self s0.counter)
  refine ⟨⟨storeInv_put ho (by omega) (by omega) hS (unref_of_none hcl hnone) (not_mem_of_none hnone hm) he, ho ▸ ⟨hm, hcl⟩,
    by omega, fun x hx => ?_⟩, fun c hc => ?_⟩
  · rw [lookup_put ho, if_neg (show x ≠ s0.counter + 1 by omega)]
  · rw [hv] at hc; cases hc
    exact ⟨op, lookup_head ho, hty⟩

end NadaVerif.Lemmas
