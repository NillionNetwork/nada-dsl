/-
Compiling a closed store never looks up a missing id.

`Closed st` (every record found in the store mentions only ids the store holds) is what `trace_ok`
establishes for every traced program; under it, and when every output designates a stored operation, none of
the lookups of `compile` — operands during the traversals, applied functions, parameters of emitted functions,
output roots — can fail: `compile st outs ≠ .error .key`.
-/
import NadaVerif.Lemmas.Invariant
import NadaVerif.Lemmas.FnExact

namespace NadaVerif.Lemmas
open NadaVerif NadaVerif.Spec

def Closed (st : St) : Prop := ∀ k op, st.lookup k = some op → ∀ c ∈ op.mentions, Has st.ops c

theorem closed_of_stoL (st : St) (h : StoL st.ops) : Closed st := by
  intro k op hl c hc
  exact StoL.closed h (k, op) (lookup_mem st k op hl) c hc

section
variable {st : St} (hc : Closed st)
include hc

theorem processOp_nk {k : Id} {op : AstOp} (hl : st.lookup k = some op) {fs : Table} {acc : CAcc} {e : Err}
    (h : processOp st k op fs acc = .error e) : e ≠ .key := by
  rcases processOp_error h with rfl | ⟨-, f, hf, hn⟩
  · nofun
  · exact absurd (hc k op hl f (by simp [AstOp.mentions, hf])) (not_has_of_none hn)

theorem traverse_nk {fns : Table} {fuel : Nat} {s : List Id} {t x : Table} {a : CAcc} {e : Err}
    (h : traverse st fns fuel s t x a = .error e) (hs : ∀ k ∈ s, Has st.ops k) : e ≠ .key := by
  fun_induction traverse st fns fuel s t x a with
  | case1 => cases h
  | case2 => cases h; nofun
  | case3 _ k s t x a hk ih => exact ih h fun k hk => hs k (List.mem_cons_of_mem _ hk)
  | case4 _ k s t x a hk hl => exact absurd (hs k List.mem_cons_self) (not_has_of_none hl)
  | case5 _ k s t x a hk op hop e hp => cases h; exact processOp_nk hc hop hp
  | case6 _ k s t x a hk op hop a' ex hp _ ih =>
    refine ih h fun c h => ?_
    rcases List.mem_append.1 h with h | h
    · exact hc k op hop c (by simp [AstOp.mentions, List.mem_reverse.1 h])
    · exact hs c (List.mem_cons_of_mem _ h)

theorem compileOutputs_nk {outs : List OutDecl} {t fs : Table} {mo : List MirOutput} {a : CAcc} {e : Err}
    (h : compileOutputs st outs t fs mo a = .error e) (ho : ∀ o ∈ outs, Has st.ops o.root) : e ≠ .key := by
  fun_induction compileOutputs st outs t fs mo a with
  | case1 => cases h
  | case2 o os t fs mo a e htr => cases h; exact traverse_nk hc htr (by simpa using ho o List.mem_cons_self)
  | case3 o os t fs mo a _ _ _ _ hl => exact absurd (ho o List.mem_cons_self) (not_has_of_none hl)
  | case4 o os t fs mo a _ _ _ _ _ _ _ ih => exact ih h fun o h => ho o (List.mem_cons_of_mem _ h)

theorem emitFunctions_nk {fuel : Nat} {s fs : Table} {out : List MirFn} {a : CAcc} {e : Err}
    (h : emitFunctions st fuel s fs out a = .error e) (hs : FromStore st s) : e ≠ .key := by
  fun_induction emitFunctions st fuel s fs out a with
  | case1 => cases h
  | case2 | case6 => cases h; nofun
  | case3 _ k s fs out a n as c ty e htr =>
    cases h
    have hm := hc k _ (hs _ List.mem_cons_self)
    exact traverse_nk hc htr (by simpa using hm c (by simp [mentions_function]))
  | case4 _ k s fs out a n as c ty t ex a1 htr e hmf =>
    rw [hmf] at h; cases h
    rcases fnToMir_error hmf with rfl | ⟨-, _, _, _, _, hf, a, ha, hn⟩
    · nofun
    · cases hf
      exact absurd (hc k _ (hs _ List.mem_cons_self) a (by simp [mentions_function, ha])) (not_has_of_none hn)
  | case5 _ k s fs out a n as c ty t ex a1 htr mf hmf ih =>
    rw [hmf] at h
    have hx := traverse_extra_fromStore htr fun _ h => nomatch h
    refine ih h fun e he => ?_
    rcases List.mem_append.1 he with he | he
    · exact hx e (List.mem_reverse.1 he)
    · exact hs e (List.mem_cons_of_mem _ he)

/-- **No lookup of `compile` can miss** in a closed store whose outputs designate stored operations. -/
theorem compile_nk (outs : List OutDecl) (ho : ∀ o ∈ outs, Has st.ops o.root) : compile st outs ≠ .error .key := by
  intro h
  rcases compile_error h with h | ⟨t, fs, mo, a, hco, h⟩
  · exact compileOutputs_nk hc h ho rfl
  · have hf := compileOutputs_fns_fromStore hco fun _ h => nomatch h
    exact emitFunctions_nk hc h (fun x hx => hf x (List.mem_reverse.1 hx)) rfl

end

end NadaVerif.Lemmas
