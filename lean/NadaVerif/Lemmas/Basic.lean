/-
What the lemma modules share and no model owns: the pointwise relation of two lists (`All2`), `>>=` in `Except`, and
interning into a list (`internAt`: the literal table of the trace, the reference table of `source_ref.py`).
-/

namespace NadaVerif.Lemmas

theorem bind_eq_ok {ε α β : Type} {x : Except ε α} {f : α → Except ε β} {b : β} :
    (x >>= f) = .ok b ↔ ∃ a, x = .ok a ∧ f a = .ok b := by
  cases x <;> simp [bind, Except.bind]

theorem mapM_error {α β ε} {f : α → Except ε β} : ∀ {as : List α} {e : ε}, as.mapM f = .error e → ∃ a ∈ as, f a = .error e
  | [], _, h => nomatch h
  | a :: as, e, h => by
    simp only [List.mapM_cons, bind, Except.bind] at h
    split at h
    · cases h; exact ⟨a, List.mem_cons_self, ‹_›⟩
    · split at h <;> cases h
      obtain ⟨b, hb, hf⟩ := mapM_error ‹as.mapM f = _›
      exact ⟨b, List.mem_cons_of_mem _ hb, hf⟩

theorem mem_of_mapM_some {α β} {f : α → Option β} : ∀ {l : List α} {l' : List β}, l.mapM f = some l' →
    ∀ y ∈ l', ∃ x ∈ l, f x = some y
  | [], _, h, y, hy => by cases h; cases hy
  | x :: l, _, h, y, hy => by
    simp only [List.mapM_cons, Option.bind_eq_bind, Option.bind_eq_some_iff, Option.pure_def, Option.some.injEq] at h
    obtain ⟨b, hb, bs, hbs, rfl⟩ := h
    rcases List.mem_cons.1 hy with rfl | hy
    · exact ⟨x, List.mem_cons_self, hb⟩
    · obtain ⟨x', hx', h'⟩ := mem_of_mapM_some hbs y hy
      exact ⟨x', List.mem_cons_of_mem _ hx', h'⟩

theorem nodup_append_singleton {α} {l : List α} {a : α} (h : l.Nodup) (ha : a ∉ l) : (l ++ [a]).Nodup :=
  List.nodup_append.2 ⟨h, List.pairwise_singleton .., fun _ hx _ hy e => ha (List.mem_singleton.1 hy ▸ e ▸ hx)⟩

theorem forall_mem_snoc {α} {P : α → Prop} {l : List α} {x : α} (hl : ∀ y ∈ l, P y) (hx : P x) : ∀ y ∈ l ++ [x], P y :=
  List.forall_mem_append.mpr ⟨hl, List.forall_mem_singleton.mpr hx⟩

def All2 {α β} (R : α → β → Prop) : List α → List β → Prop
  | [], [] => True
  | a :: as, b :: bs => R a b ∧ All2 R as bs
  | _, _ => False

@[simp] theorem All2_nil {α β} (R : α → β → Prop) : All2 R [] [] = True := rfl
@[simp] theorem All2_cons {α β} (R : α → β → Prop) (a as b bs) : All2 R (a :: as) (b :: bs) = (R a b ∧ All2 R as bs) := rfl

theorem All2.nil_left {α β} {R : α → β → Prop} {l : List β} : All2 R [] l ↔ l = [] := by
  cases l <;> simp [All2]

theorem All2.cons_left {α β} {R : α → β → Prop} {a : α} {as : List α} {l : List β} :
    All2 R (a :: as) l ↔ ∃ b bs, l = b :: bs ∧ R a b ∧ All2 R as bs := by
  cases l with
  | nil => simp [All2]
  | cons b bs => exact ⟨fun h => ⟨b, bs, rfl, h⟩, fun ⟨_, _, e, h⟩ => by cases e; exact h⟩

theorem All2.length {α β} {R : α → β → Prop} : ∀ {as : List α} {bs : List β}, All2 R as bs → as.length = bs.length
  | [], _, h => by rw [All2.nil_left.1 h]; rfl
  | _ :: _, _, h => by obtain ⟨_, _, rfl, _, h⟩ := All2.cons_left.1 h; simp [All2.length h]

theorem All2.map {α β γ δ} {R : γ → δ → Prop} (f : α → γ) (g : β → δ) : ∀ {as : List α} {bs : List β},
    All2 (fun a b => R (f a) (g b)) as bs → All2 R (as.map f) (bs.map g)
  | [], _, h => by rw [All2.nil_left.1 h]; trivial
  | _ :: _, _, h => by obtain ⟨_, _, rfl, hr, h⟩ := All2.cons_left.1 h; exact ⟨hr, All2.map f g h⟩

theorem All2.right {α β} {R : α → β → Prop} : ∀ {as : List α} {bs : List β}, All2 R as bs → ∀ b ∈ bs, ∃ a ∈ as, R a b
  | [], _, h, _, hb => by rw [All2.nil_left.1 h] at hb; cases hb
  | a :: as, _, h, x, hx => by
    obtain ⟨b, bs, rfl, hr, h⟩ := All2.cons_left.1 h
    rcases List.mem_cons.1 hx with rfl | hx
    · exact ⟨a, List.mem_cons_self, hr⟩
    · obtain ⟨y, hy, hr⟩ := All2.right h x hx
      exact ⟨y, List.mem_cons_of_mem _ hy, hr⟩

/-- the index of `a` in `l`, appended if new -/
def internAt {α} [BEq α] (l : List α) (a : α) : Nat × List α :=
  match l.idxOf? a with
  | some i => (i, l)
  | none => (l.length, l ++ [a])

section
variable {α : Type} [BEq α] [LawfulBEq α] (l : List α) (a : α)

theorem idxOf?_eq : l.idxOf? a = if a ∈ l then some (l.idxOf a) else none := by
  rw [List.idxOf?, List.findIdx?_eq_guard_findIdx_lt, ← List.idxOf, Option.guard_apply]
  simp only [List.idxOf_lt_length_iff, decide_eq_true_eq]

theorem internAt_cases :
    (a ∈ l ∧ internAt l a = (l.idxOf a, l)) ∨ (a ∉ l ∧ internAt l a = (l.length, l ++ [a])) := by
  unfold internAt
  rw [idxOf?_eq]
  by_cases h : a ∈ l <;> simp [h]

theorem internAt_get : (internAt l a).2[(internAt l a).1]? = some a := by
  rcases internAt_cases l a with ⟨h, e⟩ | ⟨_, e⟩ <;> rw [e]
  · exact List.getElem?_eq_some_iff.mpr ⟨List.idxOf_lt_length_of_mem h, List.getElem_idxOf _⟩
  · simp

theorem internAt_idx : (internAt l a).2.idxOf a = (internAt l a).1 := by
  rcases internAt_cases l a with ⟨_, e⟩ | ⟨h, e⟩ <;> rw [e]
  simp [List.idxOf_append, h]

theorem internAt_prefix : l <+: (internAt l a).2 := by
  rcases internAt_cases l a with ⟨_, e⟩ | ⟨_, e⟩ <;> simp [e]

theorem internAt_old {i : Nat} (hi : i < l.length) : (internAt l a).2[i]? = l[i]? := by
  rw [List.prefix_iff_getElem?.mp (internAt_prefix l a) i hi, List.getElem?_eq_getElem hi]

variable {l a}

theorem mem_internAt {x : α} : x ∈ (internAt l a).2 ↔ x ∈ l ∨ x = a := by
  rcases internAt_cases l a with ⟨h, e⟩ | ⟨_, e⟩ <;> rw [e]
  · exact ⟨.inl, fun h' => h'.elim id (· ▸ h)⟩
  · simp

theorem internAt_nodup (a : α) (h : l.Nodup) : (internAt l a).2.Nodup := by
  rcases internAt_cases l a with ⟨_, e⟩ | ⟨hn, e⟩ <;> rw [e]
  · exact h
  · exact nodup_append_singleton h hn

end

end NadaVerif.Lemmas
