/-
Typed store — from single commands to every clean run.

`CleanRun m cs`: `CleanStep` (`Lemmas/Typed.lean`) holds at every step of the run — it stays outside the two ways in which
the DSL lets one `Input` object carry two types (finding F-C03-2).  Then:

`trace_edges`: after **any** command list run cleanly from the initial state, every visible record of the store is
edge-consistent (`Edge.edgeOK`) — the type recorded for an operation is the one its operands' recorded types determine.

That the earlier records are kept (`Persist`) needs no such hypothesis: `trace_persist` (`Lemmas/TraceInv.lean`).
-/
import NadaVerif.Lemmas.Typed

namespace NadaVerif.Lemmas
open Std.Do NadaVerif NadaVerif.Spec NadaVerif.Edge

def CleanRun (m : Mach) : List Cmd → Prop
  | [] => True
  | c :: cs => CleanStep m c ∧ CleanRun (step m c).1 cs

theorem J_init : J {} := ⟨machOK_init, by intro k op h; simp [St.lookup] at h, by simp⟩

/-- One clean step keeps the invariant.  The structural half, and that the records are kept, is `step_inv`; on it,
`exec_typed` gives the rest when the command is accepted, and a rejected command has stored under fresh ids only. -/
theorem step_typed (m : Mach) (c : Cmd) (hJ : J m) (hc : CleanStep m c) : J (step m c).1 := by
  obtain ⟨hok, hp⟩ := step_inv m c hJ.ok
  have hx := triple_run _ m.st _ _ (exec_typed m hJ c hc)
  unfold step at hok hp ⊢
  generalize (exec m.regs m.frames c).run.run m.st = r at hx hok hp ⊢
  obtain ⟨_ | ⟨vals, frames'⟩, s'⟩ := r
  · refine postT_of (vals := List.replicate c.arity .dead) hJ hx.inv (fun x hx => ?_) hok hp
    rw [List.eq_of_mem_replicate hx]; trivial
  · exact hx hok hp

theorem runCmds_typed (cs : List Cmd) : ∀ (m : Mach), J m → CleanRun m cs → J (runCmds m cs).1 := by
  induction cs with
  | nil => exact fun m h _ => h
  | cons c cs ih => exact fun m hJ hc => ih _ (step_typed m c hJ hc.1) hc.2

theorem storeEdgesOK_iff (s : St) : storeEdgesOK s = true ↔ EdgesOK s := by
  simp only [storeEdgesOK, List.all_eq_true, Bool.or_eq_true, bne_iff_ne, ne_eq, EdgesOK]
  constructor
  · intro h k op hl
    have hm := lookup_mem s k op hl
    rcases h (k, op) hm with h | h
    · exact absurd hl h
    · exact h
  · intro h e _
    by_cases hl : s.lookup e.1 = some e.2
    · exact .inr (h e.1 e.2 hl)
    · exact .inl hl

theorem agreeB_sound {s : St} {w : Val} (h : agreeB s w = true) : Agree s w := by
  intro c hc
  simp only [agreeB, hc] at h
  split at h
  · rename_i op t hl ht
    exact ⟨op, hl, by rw [ht]; simp at h; rw [h]⟩
  · cases h

theorem unrefB_sound {s : St} {k : Id} (h : unrefB s k = true) : Unref s k := by
  intro e he hk
  have := List.all_eq_true.1 h e he
  rw [Bool.not_eq_true', List.contains_eq_mem, decide_eq_false_iff_not] at this
  exact this hk

theorem cleanStepB_sound {m : Mach} {c : Cmd} (h : cleanStepB m c = true) : CleanStep m c := by
  simp only [cleanStepB, Bool.and_eq_true, List.all_eq_true] at h
  refine ⟨fun r hr v hv w hw => ?_, ?_⟩
  · have := h.1 r hr
    simp only [hv, List.all_eq_true] at this
    exact agreeB_sound (this w hw)
  · cases c with
    | wrap t r => exact fun k n p d hr => unrefB_sound (by simpa only [hr] using h.2)
    | arrayOf r sz => exact fun v c' hr hc => unrefB_sound (by simpa only [hr, hc] using h.2)
    | _ => trivial

theorem cleanRunB_sound : ∀ (cs : List Cmd) (m : Mach), cleanRunB m cs = true → CleanRun m cs
  | [], _, _ => trivial
  | c :: cs, m, h => by
    simp only [cleanRunB, Bool.and_eq_true] at h
    exact ⟨cleanStepB_sound h.1, cleanRunB_sound cs _ h.2⟩

/-- **Every clean run** — any command list, accepted or rejected commands, function bodies, any nesting of
collections — leaves a store in which the type recorded for each visible operation is the one its operands' recorded
types determine.  (The hypothesis in its executable form: a `Bool` the driver evaluates on every generated program.) -/
theorem trace_edges (cs : List Cmd) (h : cleanRunB {} cs = true) : EdgesOK (runCmds {} cs).1.st :=
  (runCmds_typed cs {} J_init (cleanRunB_sound cs {} h)).edges

end NadaVerif.Lemmas
