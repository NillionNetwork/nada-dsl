/-
`processOp` in two halves (what it does to the accumulators, which function it reports), and the three
`upsert…` functions of the compile model as instances of one.
-/
import NadaVerif.Lemmas.Loops

namespace NadaVerif.Lemmas
open NadaVerif NadaVerif.Spec

/-- `upsertFn`, `upsertInput`, `upsertLiteral` for any key -/
def upsertBy {α κ} [DecidableEq κ] (key : α → κ) (x : α) : List α → List α
  | [] => [x]
  | y :: ys => if key y = key x then x :: ys else y :: upsertBy key x ys

theorem upsertFn_eq (f : Id × AstOp) (l : Table) : upsertFn f l = upsertBy (·.1) f l := by
  induction l with
  | nil => rfl
  | cons g gs ih => simp only [upsertFn, upsertBy, ih]

theorem upsertInput_eq (i : MirInput) (l : List MirInput) : upsertInput i l = upsertBy (·.name) i l := by
  induction l with
  | nil => rfl
  | cons g gs ih => simp only [upsertInput, upsertBy, ih]

theorem upsertLiteral_eq (i : MirLiteral) (l : List MirLiteral) : upsertLiteral i l = upsertBy (·.name) i l := by
  induction l with
  | nil => rfl
  | cons g gs ih => simp only [upsertLiteral, upsertBy, ih]

section
variable {α κ : Type} [DecidableEq κ] {key : α → κ} {x : α}

theorem mem_upsertBy {l : List α} {y : α} (h : y ∈ upsertBy key x l) : y = x ∨ y ∈ l := by
  induction l with
  | nil => exact .inl (List.mem_singleton.1 h)
  | cons z zs ih =>
    simp only [upsertBy] at h
    split at h
    · exact (List.mem_cons.1 h).imp_right (List.mem_cons_of_mem _)
    · rcases List.mem_cons.1 h with rfl | h
      · exact .inr List.mem_cons_self
      · exact (ih h).imp_right (List.mem_cons_of_mem _)

theorem upsertBy_new {l : List α} (h : ∀ y ∈ l, key y ≠ key x) : upsertBy key x l = l ++ [x] := by
  induction l with
  | nil => rfl
  | cons z zs ih =>
    simp only [upsertBy, h z List.mem_cons_self, if_false, List.cons_append,
      ih fun y hy => h y (List.mem_cons_of_mem _ hy)]

theorem upsertBy_same {l : List α} (hm : x ∈ l) (hu : ∀ y ∈ l, key y = key x → y = x) : upsertBy key x l = l := by
  induction l with
  | nil => cases hm
  | cons z zs ih =>
    simp only [upsertBy]
    split
    · rw [hu z List.mem_cons_self ‹_›]
    · rename_i hz
      rcases List.mem_cons.1 hm with rfl | hm
      · exact absurd rfl hz
      · rw [ih hm fun y hy => hu y (List.mem_cons_of_mem _ hy)]

theorem map_key_upsertBy (l : List α) :
    (upsertBy key x l).map key = if key x ∈ l.map key then l.map key else l.map key ++ [key x] := by
  induction l with
  | nil => simp [upsertBy]
  | cons z zs ih =>
    simp only [upsertBy]
    by_cases hz : key z = key x
    · simp [hz]
    · have : ¬ key x = key z := fun h => hz h.symm
      simp only [hz, if_false, List.map_cons, List.mem_cons, ih, this, false_or]
      split <;> rfl

theorem upsertBy_map {β κ' : Type} [DecidableEq κ'] {key' : β → κ'} (f : α → β) (l : List α)
    (h : ∀ y ∈ l, key' (f y) = key' (f x) ↔ key y = key x) :
    upsertBy key' (f x) (l.map f) = (upsertBy key x l).map f := by
  induction l with
  | nil => rfl
  | cons z zs ih =>
    simp only [List.map_cons, upsertBy, h z List.mem_cons_self, ih fun y hy => h y (List.mem_cons_of_mem _ hy)]
    split <;> rfl

end

theorem mem_mergeFns {fs extra : Table} {e : Id × AstOp} (h : e ∈ mergeFns fs extra) : e ∈ fs ∨ e ∈ extra := by
  unfold mergeFns at h
  induction extra generalizing fs with
  | nil => exact .inl h
  | cons g gs ih =>
    simp only [List.foldl_cons] at h
    rcases ih h with h | h
    · rw [upsertFn_eq] at h
      rcases mem_upsertBy h with rfl | h
      · exact .inr List.mem_cons_self
      · exact .inl h
    · exact .inr (List.mem_cons_of_mem _ h)

/-- the accumulator half of `processOp` -/
def accOp (k : Id) (op : AstOp) (acc : CAcc) : Except Err CAcc :=
  match op with
  | .input name party doc ty => addInput acc { name := name, ty := ty, party := party, doc := doc, id := k }
  | .literal value index ty =>
      .ok { acc with literals := upsertLiteral { name := toString index, value := value, ty := ty } acc.literals }
  | _ => .ok acc

/-- looking up an applied function unless it is known already -/
def findFn (st : St) (functions : Table) (fn : Id) : Except Err (Option (Id × AstOp)) :=
  if functions.any (·.1 = fn) then .ok none
  else match st.lookup fn with
    | some f => .ok (some (fn, f))
    | none => .error .key

/-- the function-discovery half of `processOp` -/
def fnOp (st : St) (k : Id) (op : AstOp) (functions : Table) : Except Err (Option (Id × AstOp)) :=
  match op.fnRef with
  | some fn => findFn st functions fn
  | none =>
    match op with
    | .function .. => if functions.any (·.1 = k) then .ok none else .ok (some (k, op))
    | _ => .ok none

theorem processOp_eq (st : St) (k : Id) (op : AstOp) (fs : Table) (acc : CAcc) :
    processOp st k op fs acc = (accOp k op acc).bind fun a => (fnOp st k op fs).map fun ex => (a, ex) := by
  cases op with
  | input => simp only [processOp, accOp, fnOp, bind]; cases addInput acc _ <;> rfl
  | map | reduce | call =>
    simp only [processOp, accOp, fnOp, AstOp.fnRef, findFn]
    split
    · rfl
    · cases st.lookup _ <;> rfl
  | function => simp only [processOp, accOp, fnOp, AstOp.fnRef]; split <;> rfl
  | _ => rfl

theorem processOp_ok {st : St} {k : Id} {op : AstOp} {fs : Table} {acc a' : CAcc} {ex : Option (Id × AstOp)}
    (h : processOp st k op fs acc = .ok (a', ex)) : accOp k op acc = .ok a' ∧ fnOp st k op fs = .ok ex := by
  rw [processOp_eq] at h
  cases ha : accOp k op acc <;> cases hx : fnOp st k op fs <;> rw [ha, hx] at h <;> cases h
  exact ⟨rfl, rfl⟩

/-- the bucket update of `addInput` -/
def updBucket (i : MirInput) (xs : List (String × List MirInput)) : List (String × List MirInput) :=
  xs.map (fun x => if x.1 = i.party then (x.1, upsertInput i x.2) else (x.1, x.2))

theorem addInput_ok {acc acc' : CAcc} {i : MirInput} (h : addInput acc i = .ok acc') :
    acc'.parties = insertSorted i.party acc.parties ∧ acc'.literals = acc.literals ∧
    acc'.inputs = updBucket i (insertParty i.party acc.inputs) ∧
    ¬ (insertParty i.party acc.inputs).any (fun (_, is) => is.any (fun j => j.name = i.name ∧ j.id ≠ i.id)) := by
  simp only [addInput] at h
  split at h <;> cases h
  exact ⟨rfl, rfl, rfl, ‹_›⟩

theorem addInput_error {acc : CAcc} {i : MirInput} {e : Err} (h : addInput acc i = .error e) : e = .compiler := by
  simp only [addInput] at h
  split at h <;> cases h
  rfl

theorem accOp_error {k : Id} {op : AstOp} {acc : CAcc} {e : Err} (h : accOp k op acc = .error e) : e = .compiler := by
  cases op <;> first | cases h | exact addInput_error h

theorem keys_iff_any {t : Table} {k : Id} : k ∈ keys t ↔ (t.any (·.1 = k)) = true := by
  simp [keys, List.any_eq_true]

/-- a function is reported only if it is not known yet, and then with its record; an applied function is known or reported -/
theorem fnOp_ok {st : St} {k : Id} {op : AstOp} {fs : Table} {ex : Option (Id × AstOp)}
    (hop : st.lookup k = some op) (h : fnOp st k op fs = .ok ex) :
    (∀ f, op.fnRef = some f → f ∈ keys fs ∨ ∃ p, ex = some p ∧ p.1 = f) ∧
    ∀ p, ex = some p → p.1 ∉ keys fs ∧ st.lookup p.1 = some p.2 := by
  unfold fnOp at h
  split at h
  · rename_i fn hfn
    rw [hfn]
    unfold findFn at h
    split at h
    · cases h; exact ⟨fun f hf => .inl (keys_iff_any.2 (Option.some.inj hf ▸ ‹_›)), nofun⟩
    · rename_i hk
      split at h <;> cases h
      exact ⟨fun f hf => .inr ⟨_, rfl, Option.some.inj hf⟩,
        fun p hp => by cases hp; exact ⟨fun hc => hk (keys_iff_any.1 hc), ‹_›⟩⟩
  · rename_i hfn
    rw [hfn]
    refine ⟨nofun, ?_⟩
    split at h
    · split at h <;> cases h
      · exact nofun
      · rename_i hk
        exact fun p hp => by cases hp; exact ⟨fun hc => hk (keys_iff_any.1 hc), hop⟩
    · cases h; exact nofun

theorem fnOp_error {st : St} {k : Id} {op : AstOp} {fs : Table} {e : Err} (h : fnOp st k op fs = .error e) :
    e = .key ∧ ∃ f, op.fnRef = some f ∧ st.lookup f = none := by
  unfold fnOp at h
  split at h
  · rename_i fn hfn
    unfold findFn at h
    split at h
    · cases h
    · split at h <;> cases h
      exact ⟨rfl, fn, hfn, ‹_›⟩
  · split at h
    · split at h <;> cases h
    · cases h

/-- only one half can fail: `accOp` on an input (a second input of that name), `fnOp` on an applied function (not stored) -/
theorem processOp_error {st : St} {k : Id} {op : AstOp} {fs : Table} {acc : CAcc} {e : Err}
    (h : processOp st k op fs acc = .error e) : e = .compiler ∨ e = .key ∧ ∃ f, op.fnRef = some f ∧ st.lookup f = none := by
  rw [processOp_eq] at h
  cases ha : accOp k op acc <;> cases hx : fnOp st k op fs <;> rw [ha, hx] at h <;> cases h
  · exact .inl (accOp_error ha)
  · exact .inl (accOp_error ha)
  · exact .inr (fnOp_error hx)

end NadaVerif.Lemmas
