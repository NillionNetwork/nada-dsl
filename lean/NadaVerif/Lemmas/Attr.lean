/-
The simp sets `vc_ids` and `vc_typed`: normal forms of the verification conditions of `Lemmas/TraceInv.lean` and of
`Lemmas/Typed.lean` (an attribute is declared in a module of its own before it can be used).
-/
import Lean.Meta.Tactic.Simp.RegisterCommand

/-- Memberships in the id lists of values and records become conjunctions over their components; the facts about
`Adv` and `RGood` that close the paths on which a command fails before it stores anything. -/
register_simp_attr vc_ids

/-- The paths on which a command fails before it stores anything, and those that end in a helper that builds the value
bound, are closed, and so is the side condition of a reader's specification (the register is one the command reads). -/
register_simp_attr vc_typed
