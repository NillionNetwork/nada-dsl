/-
The fuel of the compile model always suffices: `traverse` never reports "out of fuel" when it is given
`St.fuel`, whatever the store holds (cycles included — a record is expanded at most once), and the function worklist
never needs more than `st.ops.length + 1` rounds.
Measure for `traverse`: entries on the stack + Σ (1 + number of operands) over the records not yet in the table.
-/
import NadaVerif.Lemmas.FnExact
import NadaVerif.Lemmas.Store

namespace NadaVerif.Lemmas
open NadaVerif NadaVerif.Spec

/-- weight of the records that are not in the table yet -/
def unvisited : Table → Table → Nat
  | [], _ => 0
  | e :: ops, table => (if table.any (·.1 = e.1) then 0 else 1 + e.2.children.length) + unvisited ops table

theorem unvisited_le_total (ops table : Table) : unvisited ops table ≤ (ops.map (fun e => 1 + e.2.children.length)).sum := by
  induction ops with
  | nil => simp [unvisited]
  | cons e ops ih =>
    simp only [unvisited, List.map_cons, List.sum_cons]
    split <;> omega

theorem unvisited_mono (ops table : Table) (x : Id × AstOp) : unvisited ops (table ++ [x]) ≤ unvisited ops table := by
  induction ops with
  | nil => simp [unvisited]
  | cons e ops ih =>
    simp only [unvisited, List.any_append, List.any_cons, List.any_nil, Bool.or_false]
    cases table.any (·.1 = e.1) <;> cases decide (x.1 = e.1) <;> simp <;> omega

/-- expanding a record that is not in the table yet pays for the entries it pushes -/
theorem unvisited_visit (ops table : Table) (k : Id) (op : AstOp) (hm : (k, op) ∈ ops)
    (hk : ¬ (table.any (·.1 = k)) = true) :
    unvisited ops (table ++ [(k, op)]) + (1 + op.children.length) ≤ unvisited ops table := by
  induction ops with
  | nil => cases hm
  | cons e ops ih =>
    have hmono := unvisited_mono ops table (k, op)
    simp only [unvisited, List.any_append, List.any_cons, List.any_nil, Bool.or_false]
    rcases List.mem_cons.1 hm with rfl | hm
    · simp only [hk, decide_true, Bool.or_true, if_true, Bool.false_eq_true, if_false]
      omega
    · have := ih hm
      cases table.any (·.1 = e.1) <;> cases decide (k = e.1) <;> simp <;> omega

theorem processOp_ne_unsupported {st : St} {k : Id} {op : AstOp} {fs : Table} {acc : CAcc} {e : Err}
    (h : processOp st k op fs acc = .error e) : e ≠ .unsupported := by
  rcases processOp_error h with rfl | ⟨rfl, -⟩ <;> nofun

theorem traverse_fuel {st : St} {fns : Table} {fuel : Nat} {s : List Id} {t x : Table} {a : CAcc} {e : Err}
    (h : traverse st fns fuel s t x a = .error e) (hle : s.length + unvisited st.ops t ≤ fuel) : e ≠ .unsupported := by
  fun_induction traverse st fns fuel s t x a with
  | case1 => cases h
  | case2 => simp at hle
  | case3 _ k s t x a hk ih => exact ih h (by simp only [List.length_cons] at hle; omega)
  | case4 => cases h; nofun
  | case5 _ k s t x a hk op hop e hp => cases h; exact processOp_ne_unsupported hp
  | case6 _ k s t x a hk op hop a' ex hp _ ih =>
    have := unvisited_visit st.ops t k op (lookup_mem st k op hop) hk
    exact ih h (by simp only [List.length_append, List.length_reverse, List.length_cons] at hle ⊢; omega)

/-- from one root, `St.fuel` is enough whatever the table already holds -/
theorem traverse_root_fuel {st : St} {fns : Table} {root : Id} {t x : Table} {a : CAcc} {e : Err}
    (h : traverse st fns st.fuel [root] t x a = .error e) : e ≠ .unsupported := by
  refine traverse_fuel h ?_
  have := unvisited_le_total st.ops t
  simp only [St.fuel, List.length_singleton]
  omega

theorem compileOutputs_ne_unsupported {st : St} {outs : List OutDecl} {t fs : Table} {mo : List MirOutput} {a : CAcc}
    {e : Err} (h : compileOutputs st outs t fs mo a = .error e) : e ≠ .unsupported := by
  fun_induction compileOutputs st outs t fs mo a with
  | case1 => cases h
  | case2 _ _ _ _ _ _ _ htr => cases h; exact traverse_root_fuel htr
  | case3 => cases h; nofun
  | case4 _ _ _ _ _ _ _ _ _ _ _ _ _ ih => exact ih h

/-- the store holds a record for every key of a list of store records, so a duplicate-free one is no longer -/
theorem FromStore.length_le {st : St} {fs : Table} (hf : FromStore st fs) (hn : (keys fs).Nodup) :
    fs.length ≤ st.ops.length := by
  have := List.Nodup.length_le_of_subset hn (l₂ := keys st.ops) fun k hk => by
    obtain ⟨e, he, rfl⟩ := List.mem_map.1 hk
    exact List.mem_map.2 ⟨_, lookup_mem st _ _ (hf e he), rfl⟩
  simpa [keys] using this

/-- the worklist of functions: every round takes one entry off the stack and every entry pushed is a stored function
not known before -/
theorem emitFunctions_fuel {st : St} {fuel : Nat} {s fs : Table} {out : List MirFn} {a : CAcc} {e : Err}
    (h : emitFunctions st fuel s fs out a = .error e) (hn : (keys fs).Nodup) (hs : FromStore st fs)
    (hle : s.length + (st.ops.length - fs.length) ≤ fuel) : e ≠ .unsupported := by
  fun_induction emitFunctions st fuel s fs out a with
  | case1 => cases h
  | case2 => simp at hle
  | case3 _ _ _ _ _ _ _ _ _ _ _ htr => cases h; exact traverse_root_fuel htr
  | case4 _ k s fs out a n as c ty t ex a1 htr e hmf =>
    rw [hmf] at h; cases h
    rcases fnToMir_error hmf with rfl | ⟨rfl, -⟩ <;> nofun
  | case5 _ k s fs out a n as c ty t ex a1 htr mf hmf ih =>
    rw [hmf] at h
    obtain ⟨_, hen, hed⟩ := traverse_fn htr (FnCov.nil _) .nil (fun _ h => nomatch h)
    have hkeys := keys_mergeFns ex fs hen hed
    have hn' : (keys (mergeFns fs ex)).Nodup :=
      hkeys ▸ List.nodup_append.2 ⟨hn, hen, fun a ha b hb hab => hed b hb (hab ▸ ha)⟩
    have hs' := traverse_fns_fromStore htr hs
    have hlen := hs'.length_le hn'
    have hl1 : (mergeFns fs ex).length = fs.length + ex.length := by
      simpa [keys] using congrArg List.length hkeys
    exact ih h hn' hs' (by simp only [List.length_append, List.length_reverse, List.length_cons] at hle ⊢; omega)
  | case6 => cases h; nofun

/-- **The compile model never runs out of fuel**: whatever the store holds (cycles, dangling ids, records of any kind) and
whatever outputs are asked for, `compile` answers with a MIR or with a genuine error. -/
theorem compile_ne_unsupported (st : St) (outs : List OutDecl) : compile st outs ≠ .error .unsupported := by
  intro h
  rcases compile_error h with h | ⟨t, fs, mo, a, hco, h⟩
  · exact compileOutputs_ne_unsupported h rfl
  · obtain ⟨_, hn⟩ := compileOutputs_fn hco (FnCov.nil _) .nil
    have hs := compileOutputs_fns_fromStore hco fun _ h => nomatch h
    have := hs.length_le hn
    exact emitFunctions_fuel h hn hs (by simp only [List.length_reverse]; omega) rfl

end NadaVerif.Lemmas
