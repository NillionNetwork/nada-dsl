/-
C03 over whole stores: in an edge-consistent store, a leaf that depends on a secret is typed secret.

`taint_sound`: if every visible record is edge-consistent (`EdgesOK`, established for every clean run by
`Lemmas/TypedRun.lean`) and every `reduce` starts from a value of its function's return type, then for every operation
`k`, every leaf `π` of its value and any amount of fuel: `taintF s fuel k π = true → secretAt (type of k) π = true`.
Proof by induction on the fuel (= on the length of the dependence chain), one case per operation kind: the edge
relation read backwards (`edgeOK_…`) supplies the shape of the recorded type, the induction hypothesis the secrecy of
the operand's leaf, and `secretAt` computes along the path.
-/
import NadaVerif.Spec.Taint
import NadaVerif.Lemmas.TypedStore

namespace NadaVerif.Lemmas
open NadaVerif NadaVerif.Edge NadaVerif.Taint

theorem secName_mirName (t : STy) : secName t.mirName = STy.isSec t := by
  obtain ⟨m, b⟩ := t; cases m <;> cases b <;> decide

theorem secretAt_mirName (a : STy) : secretAt (.scalar a.mirName) [] = STy.isSec a := by
  rw [secretAt, secName_mirName]

theorem secretAt_emode (b : Bool) (base : Base) : secretAt (.scalar (STy.mk (emode b) base).mirName) [] = b := by
  rw [secretAt_mirName]
  cases b <;> rfl

theorem secretAt_of_scalarOf {t : MTy} {a : STy} (h : a ∈ scalarOf t) : secretAt t [] = STy.isSec a := by
  simp only [scalarOf, List.mem_filter, beq_iff_eq] at h
  rw [h.2, secretAt_mirName]

theorem secretAt_ntuple {ts : MTys} {i : Nat} {t : MTy} (h : ts.toList[i]? = some t) (π : Path) :
    secretAt (.ntuple ts) (.idx i :: π) = secretAt t π := by
  rw [secretAt, h]

theorem secretAt_object {fs : MFields} {i : Nat} {p : String × MTy} (h : fs.toList[i]? = some p) (π : Path) :
    secretAt (.object fs) (.idx i :: π) = secretAt p.2 π := by
  rw [secretAt, h]

theorem tysOf_get {f : Id → Option MTy} : ∀ {es ts}, tysOf f es = some ts → ∀ {i : Nat} {e}, es[i]? = some e →
    ∃ t, ts[i]? = some t ∧ f e = some t
  | x :: es, _, h, i, e, he => by
    unfold tysOf at h
    split at h
    · cases h
      cases i with
      | zero =>
        cases he
        exact ⟨_, rfl, ‹_›⟩
      | succ i =>
        rw [List.getElem?_cons_succ] at he ⊢
        exact tysOf_get ‹_› he
    · cases h
  | [], _, _, _, _, he => by cases he

theorem fieldsMatch_eq : ∀ {fs ts}, fieldsMatch fs ts = true → fs.map (·.2) = ts
  | [], [], _ => rfl
  | (_, t) :: fs, t' :: ts, h => by
    simp only [fieldsMatch, Bool.and_eq_true, beq_iff_eq] at h
    rw [List.map_cons, h.1, fieldsMatch_eq h.2]
  | [], _ :: _, h | _ :: _, [], h => by cases h

theorem toList_ofList_mtys : ∀ (ts : List MTy), (MTys.ofList ts).toList = ts
  | [] => rfl
  | t :: ts => congrArg (t :: ·) (toList_ofList_mtys ts)

/-- a scalar binary operation other than `public_equals`: a secret operand makes the recorded type secret -/
theorem binEdge_secret {name : String} {a b : STy} {ty : MTy} (h : binEdge name a b ty = true)
    (hn : name ≠ "PublicOutputEquality") (hs : STy.isSec a = true ∨ STy.isSec b = true) : secretAt ty [] = true := by
  have hm (base : Base) : secretAt (.scalar (STy.mk (emode (STy.isSec a || STy.isSec b)) base).mirName) [] = true := by
    rw [secretAt_emode, Bool.or_eq_true]
    exact hs
  unfold binEdge at h
  by_cases h1 : arithNames.contains name = true
  · rw [if_pos h1, Bool.and_eq_true, beq_iff_eq, beq_iff_eq] at h
    rw [h.2]
    exact hm _
  rw [if_neg h1] at h
  by_cases h2 : shiftNames.contains name = true
  · rw [if_pos h2, beq_iff_eq] at h
    rw [h]
    exact hm _
  rw [if_neg h2] at h
  by_cases h3 : relLogicNames.contains name = true
  · rw [if_pos h3, Bool.and_eq_true, beq_iff_eq, beq_iff_eq] at h
    rw [h.2]
    exact hm _
  rw [if_neg h3, if_neg (mt eq_of_beq hn)] at h
  by_cases h4 : (name == "TruncPr") = true
  · rw [if_pos h4, beq_iff_eq] at h
    rw [h, secretAt_mirName]
    rfl
  rw [if_neg h4, ite_self] at h
  cases h

/-! What `edgeOK … = true` says about the recorded types, kind by kind, as far as the secrecy of leaves goes. -/
section
variable {f g : Id → Option MTy} {name key : String} {l r c a b i fn src : Id} {j : Int} {es args : List Id} {ty : MTy}

theorem edgeOK_zip (h : edgeOK f g (.binary "Zip" l r ty) = true) :
    ∃ el er n, f l = some (.array el n) ∧ f r = some (.array er n) ∧ ty = .array (.tuple el er) n := by
  simp only [edgeOK, String.reduceBEq, ↓reduceIte] at h
  split at h
  · split at h
    · rw [Bool.and_eq_true, beq_iff_eq, beq_iff_eq] at h
      obtain ⟨rfl, rfl⟩ := h
      exact ⟨_, _, _, ‹_›, ‹_›, rfl⟩
    · cases h
  · cases h

theorem edgeOK_innerProduct (h : edgeOK f g (.binary "InnerProduct" l r ty) = true) :
    ∃ tl tr, f l = some tl ∧ f r = some tr ∧
      (secretAt tl [.elem] = true ∨ secretAt tr [.elem] = true → secretAt ty [] = true) := by
  simp only [edgeOK, String.reduceBEq, Bool.false_eq_true, ↓reduceIte] at h
  split at h
  · split at h
    · simp only [List.any_eq_true, Bool.and_eq_true, beq_iff_eq] at h
      obtain ⟨a, ha, b, hb, -, rfl⟩ := h
      refine ⟨_, _, ‹_›, ‹_›, ?_⟩
      rw [secretAt_emode, secretAt, secretAt, secretAt_of_scalarOf ha, secretAt_of_scalarOf hb, Bool.or_eq_true]
      exact id
    · cases h
  · cases h

theorem edgeOK_bin (h : edgeOK f g (.binary name l r ty) = true)
    (hz : name ≠ "Zip") (hi : name ≠ "InnerProduct") (hp : name ≠ "PublicOutputEquality") :
    ∃ tl tr, f l = some tl ∧ f r = some tr ∧ (secretAt tl [] = true ∨ secretAt tr [] = true → secretAt ty [] = true) := by
  rw [edgeOK] at h
  split at h
  · rw [if_neg (mt eq_of_beq hz), if_neg (mt eq_of_beq hi)] at h
    simp only [List.any_eq_true] at h
    obtain ⟨a, ha, b, hb, h⟩ := h
    refine ⟨_, _, ‹_›, ‹_›, ?_⟩
    rw [secretAt_of_scalarOf ha, secretAt_of_scalarOf hb]
    exact binEdge_secret h hp
  · cases h

theorem edgeOK_not (h : edgeOK f g (.unary "Not" c ty) = true) : f c = some ty := by
  simp only [edgeOK, String.reduceBEq, ↓reduceIte] at h
  split at h
  · rw [beq_iff_eq] at h
    rwa [h]
  · cases h

theorem edgeOK_unzip (h : edgeOK f g (.unary "Unzip" c ty) = true) :
    ∃ l r n n1 n2, f c = some (.array (.tuple l r) n) ∧ ty = .tuple (.array l n1) (.array r n2) := by
  simp only [edgeOK, String.reduceBEq, Bool.false_eq_true, ↓reduceIte] at h
  split at h
  · split at h
    · simp only [Bool.and_eq_true, beq_iff_eq] at h
      obtain ⟨⟨⟨rfl, rfl⟩, -⟩, -⟩ := h
      exact ⟨_, _, _, _, _, ‹_›, rfl⟩
    · cases h
  · cases h

theorem edgeOK_ifElse (h : edgeOK f g (.ifElse c a b ty) = true) :
    ∃ tc ta tb, f c = some tc ∧ f a = some ta ∧ f b = some tb ∧
      ((secretAt tc [] = true ∨ secretAt ta [] = true) ∨ secretAt tb [] = true → secretAt ty [] = true) := by
  rw [edgeOK] at h
  split at h
  · simp only [List.any_eq_true, Bool.and_eq_true, beq_iff_eq] at h
    obtain ⟨x, hx, y, hy, z, hz, -, rfl⟩ := h
    refine ⟨_, _, _, ‹_›, ‹_›, ‹_›, ?_⟩
    rw [secretAt_of_scalarOf hx, secretAt_of_scalarOf hy, secretAt_of_scalarOf hz, secretAt_emode, Bool.or_eq_true,
      Bool.or_eq_true]
    exact id
  · cases h

theorem edgeOK_random (h : edgeOK f g (.random ty) = true) : secretAt ty [] = true := by
  simp only [edgeOK, List.any_eq_true] at h
  obtain ⟨a, ha, hs⟩ := h
  rw [secretAt_of_scalarOf ha, hs]

theorem edgeOK_function (h : edgeOK f g (.function name args c ty) = true) : f c = some ty := by
  rwa [edgeOK, beq_iff_eq] at h

theorem edgeOK_call (h : edgeOK f g (.call args fn ty) = true) : g fn = some ty := by
  rw [edgeOK, Bool.and_eq_true, beq_iff_eq] at h
  exact h.2

theorem edgeOK_reduce (h : edgeOK f g (.reduce c fn i ty) = true) : g fn = some ty := by
  rw [edgeOK, Bool.and_eq_true, beq_iff_eq] at h
  exact h.2

theorem edgeOK_map (h : edgeOK f g (.map c fn ty) = true) :
    ∃ e n rt, f c = some (.array e n) ∧ g fn = some rt ∧ ty = .array rt n := by
  rw [edgeOK] at h
  split at h
  · exact ⟨_, _, _, ‹_›, ‹_›, eq_of_beq h⟩
  · cases h

theorem edgeOK_arrayNew (h : edgeOK f g (.new "ArrayNew" es ty) = true) :
    ∃ t n, (∀ e ∈ es, f e = some t) ∧ ty = .array t n := by
  simp only [edgeOK, String.reduceBEq, ↓reduceIte] at h
  split at h
  · split at h
    · simp only [Bool.and_eq_true, List.all_eq_true, beq_iff_eq] at h
      refine ⟨_, _, fun e he => ?_, h.2⟩
      obtain ⟨i, hi⟩ := List.getElem?_of_mem he
      obtain ⟨t, hti, hte⟩ := tysOf_get ‹_› hi
      rwa [h.1 t (List.mem_of_getElem? hti)] at hte
    · cases h
  · cases h

theorem edgeOK_tupleNew (h : edgeOK f g (.new "TupleNew" es ty) = true) :
    ∃ a b, tysOf f es = some [a, b] ∧ ty = .tuple a b := by
  simp only [edgeOK, String.reduceBEq, Bool.false_eq_true, ↓reduceIte] at h
  split at h
  · split at h
    · exact ⟨_, _, ‹_›, eq_of_beq h⟩
    · cases h
  · cases h

/-- `NTupleNew` and `ObjectNew`: the `i`-th component of the recorded type is the type of the `i`-th element -/
theorem edgeOK_new_idx (h : edgeOK f g (.new name es ty) = true)
    (ha : name ≠ "ArrayNew") (ht : name ≠ "TupleNew") :
    ∃ ts, tysOf f es = some ts ∧
      ∀ {i : Nat} {t : MTy} (π : Path), ts[i]? = some t → secretAt ty (.idx i :: π) = secretAt t π := by
  rw [edgeOK] at h
  split at h
  · refine ⟨_, ‹_›, fun π hi => ?_⟩
    rw [if_neg (mt eq_of_beq ha), if_neg (mt eq_of_beq ht)] at h
    split at h
    · rw [eq_of_beq h]
      exact secretAt_ntuple (by rwa [toList_ofList_mtys]) π
    · split at h
      · split at h
        · rw [← fieldsMatch_eq h, List.getElem?_map, Option.map_eq_some_iff] at hi
          obtain ⟨p, hp, rfl⟩ := hi
          exact secretAt_object hp π
        · cases h
      · cases h
  · cases h

theorem edgeOK_ntupleAcc (h : edgeOK f g (.ntupleAcc j src ty) = true) :
    ∃ ts, f src = some (.ntuple ts) ∧ ts.toList[j.toNat]? = some ty := by
  rw [edgeOK] at h
  split at h
  · rw [Bool.and_eq_true, beq_iff_eq] at h
    exact ⟨_, ‹_›, h.2⟩
  · cases h

theorem edgeOK_objectAcc (h : edgeOK f g (.objectAcc key src ty) = true) :
    ∃ fs p, f src = some (.object fs) ∧ fs.toList.find? (·.1 == key) = some p ∧ p.2 = ty := by
  rw [edgeOK] at h
  split at h
  · rw [beq_iff_eq, Option.map_eq_some_iff] at h
    obtain ⟨p, hp, rfl⟩ := h
    exact ⟨_, p, ‹_›, hp, rfl⟩
  · cases h

end

/-- the type of a function record is the recorded type of the operation it returns -/
theorem fnTy_child {s : St} (hE : EdgesOK s) {f : Id} {ty : MTy} (h : fnTyS s f = some ty) :
    ∃ c, fnChild s f = some c ∧ tyAtS s c = some ty := by
  unfold fnTyS at h
  unfold fnChild
  split at h
  · cases h
    exact ⟨_, by rw [‹s.lookup f = _›], edgeOK_function (hE _ _ ‹_›)⟩
  · cases h

theorem tyAt_reduceInit {s : St} (hR : reduceInitOK s = true) {k c f i : Id} {ty : MTy}
    (hl : s.lookup k = some (.reduce c f i ty)) : tyAtS s i = fnTyS s f := by
  have := List.all_eq_true.1 hR _ (lookup_mem s k _ hl)
  simpa only [hl, bne_self_eq_false, Bool.false_or, beq_iff_eq] using this

theorem keyIndex_find? {fs : List (String × MTy)} {key : String} {i : Nat} (h : keyIndex fs key = some i) :
    fs.find? (·.1 == key) = fs[i]? := by
  unfold keyIndex at h
  rw [List.find?_eq_bind_findIdx?_getElem?, h, Option.bind_some]

/-- `taint_sound`, the record given by its type -/
theorem taint_at {s : St} (hE : EdgesOK s) (hR : reduceInitOK s = true) :
    ∀ (fuel : Nat) {k : Id} {t : MTy} {π : Path}, tyAtS s k = some t → taintF s fuel k π = true →
      secretAt t π = true := by
  intro fuel
  induction fuel with
  | zero =>
    intro k t π _ h
    simp only [taintF, Bool.false_eq_true] at h
  | succ fuel ih =>
    intro k t π hty ht
    obtain ⟨op, hl, rfl⟩ := Option.map_eq_some_iff.1 hty
    have he := hE k op hl
    simp only [taintF, hl] at ht
    -- one step of `taintF` for each kind; `literal` and `function` taint nothing
    cases op <;> simp only [AstOp.ty, beq_iff_eq, Bool.or_eq_true, Bool.false_eq_true] at ht ⊢
    case binary name l r ty =>
      split at ht
      next hz =>
        subst hz
        obtain ⟨el, er, n, hl', hr', rfl⟩ := edgeOK_zip he
        split at ht
        · simpa only [secretAt] using ih hl' ht
        · simpa only [secretAt] using ih hr' ht
        · cases ht
      next hz =>
        split at ht
        next => cases ht
        next hp =>
          split at ht
          next hi =>
            subst hi
            obtain ⟨tl, tr, hl', hr', hs⟩ := edgeOK_innerProduct he
            rw [Bool.and_eq_true, beq_iff_eq, Bool.or_eq_true] at ht
            obtain ⟨rfl, ht⟩ := ht
            exact hs (ht.imp (ih hl') (ih hr'))
          next hi =>
            obtain ⟨tl, tr, hl', hr', hs⟩ := edgeOK_bin he hz hi hp
            rw [Bool.and_eq_true, beq_iff_eq, Bool.or_eq_true] at ht
            obtain ⟨rfl, ht⟩ := ht
            exact hs (ht.imp (ih hl') (ih hr'))
    case unary name c ty =>
      split at ht
      next hn =>
        subst hn
        exact ih (edgeOK_not he) ht
      next =>
        split at ht
        next hu =>
          subst hu
          obtain ⟨l, r, n, n1, n2, hc, rfl⟩ := edgeOK_unzip he
          split at ht
          · simpa only [secretAt] using ih hc ht
          · simpa only [secretAt] using ih hc ht
          · cases ht
        next => cases ht
    case ifElse c a b ty =>
      obtain ⟨tc, ta, tb, hc, ha, hb, hs⟩ := edgeOK_ifElse he
      rw [Bool.and_eq_true, beq_iff_eq, Bool.or_eq_true, Bool.or_eq_true] at ht
      obtain ⟨rfl, ht⟩ := ht
      exact hs (ht.imp (.imp (ih hc) (ih ha)) (ih hb))
    case random ty =>
      subst ht
      exact edgeOK_random he
    case input => exact ht
    case argRef => exact ht
    case call args f ty =>
      obtain ⟨c, hc, hty⟩ := fnTy_child hE (edgeOK_call he)
      simp only [hc] at ht
      exact ih hty ht
    case map c f ty =>
      obtain ⟨e, n, rt, -, hf, rfl⟩ := edgeOK_map he
      obtain ⟨c, hc, hty⟩ := fnTy_child hE hf
      simp only [hc] at ht
      split at ht
      · rw [secretAt]
        exact ih hty ht
      · cases ht
    case reduce c f i ty =>
      rcases ht with h | h
      · obtain ⟨c, hc, hty⟩ := fnTy_child hE (edgeOK_reduce he)
        simp only [hc] at h
        exact ih hty h
      · exact ih ((tyAt_reduceInit hR hl).trans (edgeOK_reduce he)) h
    case ntupleAcc j src ty =>
      obtain ⟨ts, hsrc, hj⟩ := edgeOK_ntupleAcc he
      rw [← secretAt_ntuple hj]
      exact ih hsrc ht
    case objectAcc key src ty =>
      obtain ⟨fs, p, hsrc, hp, rfl⟩ := edgeOK_objectAcc he
      simp only [hsrc] at ht
      split at ht
      next i hi =>
        rw [keyIndex_find? hi] at hp
        rw [← secretAt_object hp]
        exact ih hsrc ht
      next => cases ht
    case new name es ty =>
      split at ht
      next ha =>
        subst ha
        obtain ⟨t, n, hes, rfl⟩ := edgeOK_arrayNew he
        split at ht
        · obtain ⟨e, hem, hte⟩ := List.any_eq_true.1 ht
          rw [secretAt]
          exact ih (hes e hem) hte
        · cases ht
      next ha =>
        split at ht
        next htn =>
          subst htn
          obtain ⟨a, b, hts, rfl⟩ := edgeOK_tupleNew he
          split at ht
          · obtain ⟨_, h0, ha⟩ := tysOf_get hts (i := 0) rfl
            cases h0
            rw [secretAt]
            exact ih ha ht
          · obtain ⟨_, h1, hb⟩ := tysOf_get hts (i := 1) rfl
            cases h1
            rw [secretAt]
            exact ih hb ht
          · cases ht
        next htn =>
          obtain ⟨ts, hts, hty⟩ := edgeOK_new_idx he ha htn
          split at ht
          · split at ht
            · obtain ⟨t, hti, hte⟩ := tysOf_get hts ‹_›
              rw [hty _ hti]
              exact ih hte ht
            · cases ht
          · cases ht

theorem taint_sound (s : St) (hE : EdgesOK s) (hR : reduceInitOK s = true) :
    ∀ (fuel : Nat) (k : Id) (π : Path) (op : AstOp), s.lookup k = some op → taintF s fuel k π = true →
      secretAt op.ty π = true :=
  fun fuel k _ _ hl => taint_at hE hR fuel (k := k) (congrArg (Option.map AstOp.ty) hl)

/-- What justifies treating a parameter as a source exactly where its declared type is secret: at a call site whose
arguments have the declared parameter types, whatever an argument's leaf depends on is covered by the parameter's type. -/
theorem call_args_covered (s : St) (hE : EdgesOK s) (hR : reduceInitOK s = true)
    (args : List Id) (ptys : List MTy) (hb : tysOf (tyAtS s) args = some ptys) :
    ∀ (i : Nat) (arg : Id) (fuel : Nat) (π : Path), args[i]? = some arg → taintF s fuel arg π = true →
      ∃ pt, ptys[i]? = some pt ∧ secretAt pt π = true := by
  intro i arg fuel π hi ht
  obtain ⟨t, hti, hta⟩ := tysOf_get hb hi
  exact ⟨t, hti, taint_at hE hR fuel hta ht⟩

/-- the executable form, evaluated by the driver on every generated program -/
theorem storeTaintOK_of_edges {s : St} (hE : EdgesOK s) (hR : reduceInitOK s = true) : storeTaintOK s = true := by
  simp only [storeTaintOK, List.all_eq_true, Bool.or_eq_true, bne_iff_ne, ne_eq, Bool.not_eq_true']
  intro e _
  by_cases hl : s.lookup e.1 = some e.2
  · refine .inr fun π _ => ?_
    cases ht : taintF s (s.counter + 1) e.1 π with
    | false => exact .inl rfl
    | true => exact .inr (taint_sound s hE hR _ e.1 π e.2 hl ht)
  · exact .inl hl

end NadaVerif.Lemmas
