/-
C08 — the compiler walk commutes with an injective renaming of operation ids and of literal names.

`Ren` = a map on ids and a map on literal indices, both injective.  `St.ren r s` renames every record of the store.
`compile_ren`: compiling the renamed store from the renamed outputs yields the renamed MIR (and fails alike):
the walk compares ids and literal names only for equality, and orders nothing by them.
-/
import NadaVerif.Lemmas.Proc
import Std.Data.String.ToNat

namespace NadaVerif

structure Ren where
  id : Nat → Nat
  lit : Nat → Nat

def AstOp.ren (r : Ren) : AstOp → AstOp
  | .binary n l rr ty => .binary n (r.id l) (r.id rr) ty
  | .unary n c ty => .unary n (r.id c) ty
  | .ifElse c a b ty => .ifElse (r.id c) (r.id a) (r.id b) ty
  | .random ty => .random ty
  | .input n p d ty => .input n p d ty
  | .literal v i ty => .literal v (r.lit i) ty
  | .reduce c f i ty => .reduce (r.id c) (r.id f) (r.id i) ty
  | .map c f ty => .map (r.id c) (r.id f) ty
  | .new n es ty => .new n (es.map r.id) ty
  | .call as f ty => .call (as.map r.id) (r.id f) ty
  | .argRef n f ty => .argRef n (r.id f) ty
  | .function n args c ty => .function n (args.map r.id) (r.id c) ty
  | .ntupleAcc i s ty => .ntupleAcc i (r.id s) ty
  | .objectAcc key s ty => .objectAcc key (r.id s) ty

def renE (r : Ren) (e : Id × AstOp) : Id × AstOp := (r.id e.1, e.2.ren r)

def St.ren (r : Ren) (s : St) : St := { s with ops := s.ops.map (renE r) }

def MirInput.ren (r : Ren) (i : MirInput) : MirInput := { i with id := r.id i.id }

/-- a literal's name is its index in decimal -/
def MirLiteral.ren (r : Ren) (l : MirLiteral) : MirLiteral :=
  { l with name := toString (r.lit (l.name.toNat?.getD 0)) }

def renB (r : Ren) (b : String × List MirInput) : String × List MirInput := (b.1, b.2.map (MirInput.ren r))

def CAcc.ren (r : Ren) (a : CAcc) : CAcc :=
  { inputs := a.inputs.map (renB r), parties := a.parties, literals := a.literals.map (MirLiteral.ren r) }

def MirOutput.ren (r : Ren) (o : MirOutput) : MirOutput := { o with opId := r.id o.opId }

def MirFn.ren (r : Ren) (f : MirFn) : MirFn :=
  { f with id := r.id f.id, returnOp := r.id f.returnOp, ops := f.ops.map (renE r) }

def OutDecl.ren (r : Ren) (o : OutDecl) : OutDecl := { o with root := r.id o.root }

def MirProg.ren (r : Ren) (m : MirProg) : MirProg :=
  { functions := m.functions.map (MirFn.ren r), parties := m.parties, inputs := m.inputs.map (MirInput.ren r),
    literals := m.literals.map (MirLiteral.ren r), outputs := m.outputs.map (MirOutput.ren r),
    operations := m.operations.map (renE r) }

end NadaVerif

namespace NadaVerif.Lemmas
open NadaVerif NadaVerif.Spec

structure Ren.Inj (r : Ren) : Prop where
  id : ∀ a b, r.id a = r.id b → a = b
  lit : ∀ a b, r.lit a = r.lit b → a = b

variable {r : Ren}

theorem ren_children (op : AstOp) : (op.ren r).children = op.children.map r.id := by
  cases op <;> simp [AstOp.ren, AstOp.children]

theorem ren_ty (op : AstOp) : (op.ren r).ty = op.ty := by
  cases op <;> rfl

theorem ren_fnRef (op : AstOp) : (op.ren r).fnRef = op.fnRef.map r.id := by
  cases op <;> rfl

theorem fuel_ren (s : St) : (s.ren r).fuel = s.fuel := by
  simp [St.fuel, St.ren, List.map_map, Function.comp_def, renE, ren_children]

theorem length_ren (s : St) : (s.ren r).ops.length = s.ops.length := by simp [St.ren]

/-- The names in the literal table are decimal indices: `MirLiteral.ren` reads the index back from the name, so it renames
correctly only such names; carried through every `…_ren` lemma. -/
def LitNames (ls : List MirLiteral) : Prop := ∀ l ∈ ls, ∃ n : Nat, l.name = n.repr

theorem ren_name {l : MirLiteral} {n : Nat} (hl : l.name = n.repr) : (l.ren r).name = (r.lit n).repr := by
  simp [MirLiteral.ren, hl]

theorem ren_mk (n : Nat) (v : String) (ty : MTy) :
    MirLiteral.ren r { name := n.repr, value := v, ty := ty } = { name := (r.lit n).repr, value := v, ty := ty } := by
  simp [MirLiteral.ren]

section
variable (h : Ren.Inj r)
include h

theorem key_ren_iff (a b : Id) : r.id a = r.id b ↔ a = b := ⟨h.id a b, congrArg _⟩

theorem find_ren (l : Table) (c : Id) :
    (l.map (renE r)).find? (·.1 == r.id c) = (l.find? (·.1 == c)).map (renE r) := by
  rw [List.find?_map]
  congr 2; funext e
  exact Bool.eq_iff_iff.2 (by simp only [Function.comp, renE, beq_iff_eq, key_ren_iff h])

theorem lookup_ren (s : St) (c : Id) : (s.ren r).lookup (r.id c) = (s.lookup c).map (AstOp.ren r) := by
  simp only [St.lookup, St.ren, find_ren h, Option.map_map]
  rfl

theorem any_key_ren (t : Table) (k : Id) :
    (t.map (renE r)).any (fun e => decide (e.1 = r.id k)) = t.any (fun e => decide (e.1 = k)) := by
  simp only [List.any_map, Function.comp_def, renE, key_ren_iff h]

theorem upsertFn_ren (f : Id × AstOp) (fs : Table) :
    upsertFn (renE r f) (fs.map (renE r)) = (upsertFn f fs).map (renE r) := by
  simp only [upsertFn_eq]
  exact upsertBy_map (renE r) fs fun y _ => key_ren_iff h ..

theorem mergeFns_ren (fs extra : Table) :
    mergeFns (fs.map (renE r)) (extra.map (renE r)) = (mergeFns fs extra).map (renE r) := by
  unfold mergeFns
  induction extra generalizing fs with
  | nil => rfl
  | cons e es ih => simp only [List.map_cons, List.foldl_cons, upsertFn_ren h, ih]

omit h in
theorem insertParty_ren (p : String) (xs : List (String × List MirInput)) :
    insertParty p (xs.map (renB r)) = (insertParty p xs).map (renB r) := by
  induction xs with
  | nil => rfl
  | cons x xs ih =>
    obtain ⟨q, is⟩ := x
    simp only [List.map_cons, renB, insertParty]
    split
    · rfl
    · split
      · rfl
      · simp only [List.map_cons, renB, ← ih]

omit h in
theorem upsertInput_ren (i : MirInput) (js : List MirInput) :
    upsertInput (i.ren r) (js.map (MirInput.ren r)) = (upsertInput i js).map (MirInput.ren r) := by
  simp only [upsertInput_eq]
  exact upsertBy_map (MirInput.ren r) js fun _ _ => Iff.rfl

theorem addInput_ren (acc : CAcc) (i : MirInput) :
    addInput (acc.ren r) (i.ren r) = (addInput acc i).map (CAcc.ren r) := by
  -- the duplicate test compares ids only for equality
  have hd : ∀ xs : List (String × List MirInput),
      (xs.map (renB r)).any (fun (x : String × List MirInput) =>
        x.2.any (fun j => decide (j.name = (i.ren r).name ∧ j.id ≠ (i.ren r).id))) =
      xs.any (fun (x : String × List MirInput) => x.2.any (fun j => decide (j.name = i.name ∧ j.id ≠ i.id))) := by
    intro xs
    simp only [List.any_map, Function.comp_def, renB, MirInput.ren, ne_eq, key_ren_iff h]
  unfold addInput
  simp only [CAcc.ren, show (i.ren r).party = i.party from rfl, insertParty_ren, hd]
  split
  · rfl
  · simp only [Except.map, CAcc.ren, List.map_map]
    congr 2
    refine List.map_congr_left fun x _ => ?_
    by_cases hpp : x.1 = i.party <;> simp [renB, hpp, upsertInput_ren]

theorem upsertLiteral_ren (i : Nat) (v : String) (ty : MTy) (ls : List MirLiteral) (hl : LitNames ls) :
    upsertLiteral { name := (r.lit i).repr, value := v, ty := ty } (ls.map (MirLiteral.ren r)) =
      (upsertLiteral { name := i.repr, value := v, ty := ty } ls).map (MirLiteral.ren r) := by
  simp only [upsertLiteral_eq, ← ren_mk (r := r)]
  refine upsertBy_map (MirLiteral.ren r) ls fun l hm => ?_
  obtain ⟨n, hn⟩ := hl l hm
  rw [ren_name hn, ren_name (l := ⟨i.repr, v, ty⟩) rfl, hn, Nat.repr_inj, Nat.repr_inj]
  exact ⟨h.lit n i, congrArg _⟩

omit h in
theorem upsertLiteral_names (i : Nat) (v : String) (ty : MTy) (ls : List MirLiteral) (hl : LitNames ls) :
    LitNames (upsertLiteral { name := i.repr, value := v, ty := ty } ls) := by
  intro l hm
  rcases mem_upsertBy (upsertLiteral_eq _ _ ▸ hm) with rfl | hm
  · exact ⟨i, rfl⟩
  · exact hl l hm

theorem accOp_ren (k : Id) (op : AstOp) (acc : CAcc) (hl : LitNames acc.literals) :
    accOp (r.id k) (op.ren r) (acc.ren r) = (accOp k op acc).map (CAcc.ren r) := by
  cases op with
  | input name party doc ty => exact addInput_ren h acc ⟨name, ty, party, doc, k⟩
  | literal v i ty =>
    simp only [accOp, AstOp.ren, Except.map, CAcc.ren]
    rw [show toString (r.lit i) = (r.lit i).repr from rfl, show toString i = i.repr from rfl,
      upsertLiteral_ren h i v ty _ hl]
  | _ => rfl

omit h in
theorem accOp_names {k : Id} {op : AstOp} {acc acc' : CAcc} (hp : accOp k op acc = .ok acc')
    (hl : LitNames acc.literals) : LitNames acc'.literals := by
  cases op with
  | input name party doc ty => exact (addInput_ok hp).2.1 ▸ hl
  | literal v i ty => cases hp; exact upsertLiteral_names i v ty acc.literals hl
  | _ => cases hp; exact hl

theorem fnOp_ren (s : St) (k : Id) (op : AstOp) (fns : Table) :
    fnOp (s.ren r) (r.id k) (op.ren r) (fns.map (renE r)) = (fnOp s k op fns).map (Option.map (renE r)) := by
  unfold fnOp
  rw [ren_fnRef]
  cases op.fnRef with
  | some fn =>
    simp only [Option.map, findFn, any_key_ren h, lookup_ren h]
    split
    · rfl
    · cases s.lookup fn <;> rfl
  | none =>
    cases op <;> try rfl
    simp only [Option.map, AstOp.ren, any_key_ren h]
    split <;> rfl

/-- the renaming on what `processOp`, `traverse`, `compileOutputs`, `emitFunctions` return: `renEx`, `renT`, `renO`, `renF` -/
def renEx (r : Ren) (x : CAcc × Option (Id × AstOp)) : CAcc × Option (Id × AstOp) := (x.1.ren r, x.2.map (renE r))

theorem processOp_ren (s : St) (k : Id) (op : AstOp) (fns : Table) (acc : CAcc) (hl : LitNames acc.literals) :
    processOp (s.ren r) (r.id k) (op.ren r) (fns.map (renE r)) (acc.ren r) =
      (processOp s k op fns acc).map (renEx r) := by
  rw [processOp_eq, processOp_eq, accOp_ren h k op acc hl, fnOp_ren h]
  cases accOp k op acc with
  | error e => rfl
  | ok a => cases fnOp s k op fns <;> rfl

omit h in
theorem traverse_names {s : St} {fns : Table} {fuel stk t x a t' x' a'}
    (hr : traverse s fns fuel stk t x a = .ok (t', x', a')) (hl : LitNames a.literals) : LitNames a'.literals :=
  traverse_inv (fun _ _ _ a => LitNames a.literals) (fun _ _ _ _ _ _ h => h)
    (fun _ _ _ _ _ _ _ _ _ _ hp hl => accOp_names (processOp_ok hp).1 hl) hr hl

def renT (r : Ren) (x : Table × Table × CAcc) : Table × Table × CAcc := (x.1.map (renE r), x.2.1.map (renE r), x.2.2.ren r)

theorem traverse_ren (s : St) (fns : Table) (fuel : Nat) (stack : List Id) (table extra : Table) (acc : CAcc)
    (hl : LitNames acc.literals) :
    traverse (s.ren r) (fns.map (renE r)) fuel (stack.map r.id) (table.map (renE r)) (extra.map (renE r)) (acc.ren r) =
      (traverse s fns fuel stack table extra acc).map (renT r) := by
  induction fuel generalizing stack table extra acc with
  | zero => cases stack <;> rfl
  | succ fuel ih =>
    cases stack with
    | nil => rfl
    | cons k stk =>
      -- one round, unfolded on both sides; the tests agree, then the outcomes of `lookup` and `processOp` are followed
      simp only [List.map_cons, traverse, any_key_ren h, lookup_ren h]
      split
      · exact ih _ _ _ _ hl
      · cases s.lookup k with
        | none => rfl
        | some op =>
          simp only [Option.map_some, processOp_ren h s k op fns acc hl]
          cases hp : processOp s k op fns acc with
          | error e => rfl
          | ok res =>
            have hl1 := accOp_names (processOp_ok hp).1 hl
            have hst : (op.ren r).children.reverse ++ stk.map r.id = (op.children.reverse ++ stk).map r.id := by
              rw [ren_children, List.map_append, List.map_reverse]
            have htb : table.map (renE r) ++ [(r.id k, op.ren r)] = (table ++ [(k, op)]).map (renE r) := by
              rw [List.map_append]; rfl
            simp only [Except.map, renEx, hst, htb]
            cases res.2 with
            | none => exact ih _ _ _ _ hl1
            | some f => simp only [Option.map_some, upsertFn_ren h]; exact ih _ _ _ _ hl1

omit h in
theorem compileOutputs_names {s : St} {outs t fs mo a t' fs' mo' a'}
    (hr : compileOutputs s outs t fs mo a = .ok (t', fs', mo', a')) (hl : LitNames a.literals) : LitNames a'.literals :=
  compileOutputs_inv (fun _ _ _ _ a => LitNames a.literals) (fun _ _ _ _ _ _ _ _ a' _ htr _ hl => (traverse_names htr hl : LitNames a'.literals)) hr hl

def renO (r : Ren) (x : Table × Table × List MirOutput × CAcc) : Table × Table × List MirOutput × CAcc :=
  (x.1.map (renE r), x.2.1.map (renE r), x.2.2.1.map (MirOutput.ren r), x.2.2.2.ren r)

theorem compileOutputs_ren (s : St) (outs : List OutDecl) (t fs : Table) (mo : List MirOutput) (a : CAcc)
    (hl : LitNames a.literals) :
    compileOutputs (s.ren r) (outs.map (OutDecl.ren r)) (t.map (renE r)) (fs.map (renE r))
        (mo.map (MirOutput.ren r)) (a.ren r) = (compileOutputs s outs t fs mo a).map (renO r) := by
  induction outs generalizing t fs mo a with
  | nil => rfl
  | cons o os ih =>
    have ht := traverse_ren h s fs s.fuel [o.root] t [] a hl
    simp only [List.map_cons, List.map_nil] at ht
    simp only [List.map_cons, compileOutputs, fuel_ren, show (o.ren r).root = r.id o.root from rfl, ht]
    cases htr : traverse s fs s.fuel [o.root] t [] a with
    | error e => rfl
    | ok res =>
      obtain ⟨t1, ex, a1⟩ := res
      simp only [Except.map, renT, lookup_ren h]
      cases s.lookup o.root with
      | none => rfl
      | some op =>
        have hm : mo.map (MirOutput.ren r) ++ [MirOutput.mk (r.id o.root) (o.ren r).name (o.ren r).party (op.ren r).ty] =
            (mo ++ [MirOutput.mk o.root o.name o.party op.ty]).map (MirOutput.ren r) := by
          simp [MirOutput.ren, OutDecl.ren, ren_ty]
        simp only [Option.map_some, mergeFns_ren h, hm]
        exact ih _ _ _ { a1 with parties := insertSorted o.party a1.parties } (traverse_names htr hl : LitNames a1.literals)

theorem argOf_ren (s : St) (a : Id) : argOf (s.ren r) (r.id a) = argOf s a := by
  unfold argOf
  rw [lookup_ren h]
  cases s.lookup a with
  | none => rfl
  | some op => cases op <;> rfl

theorem mapM_argOf_ren (s : St) : ∀ (as : List Id), (as.map r.id).mapM (argOf (s.ren r)) = as.mapM (argOf s)
  | [] => rfl
  | a :: as => by simp only [List.map_cons, List.mapM_cons, argOf_ren h, mapM_argOf_ren s as]

theorem fnToMir_ren (s : St) (k : Id) (f : AstOp) (table : Table) :
    fnToMir (s.ren r) (r.id k) (f.ren r) (table.map (renE r)) = (fnToMir s k f table).map (MirFn.ren r) := by
  cases f with
  | function name args child ty =>
    simp only [fnToMir, AstOp.ren, bind, Except.bind, mapM_argOf_ren h]
    cases args.mapM (argOf s) <;> rfl
  | _ => rfl

def renF (r : Ren) (x : List MirFn × CAcc) : List MirFn × CAcc := (x.1.map (MirFn.ren r), x.2.ren r)

theorem emitFunctions_ren (s : St) (fuel : Nat) (stack fs : Table) (out : List MirFn) (a : CAcc) (hl : LitNames a.literals) :
    emitFunctions (s.ren r) fuel (stack.map (renE r)) (fs.map (renE r)) (out.map (MirFn.ren r)) (a.ren r) =
      (emitFunctions s fuel stack fs out a).map (renF r) := by
  induction fuel generalizing stack fs out a with
  | zero => cases stack <;> rfl
  | succ fuel ih =>
    cases stack with
    | nil => rfl
    | cons e stk =>
      obtain ⟨k, f⟩ := e
      cases f with
      | function n as c ty =>
        have ht := traverse_ren h s fs s.fuel [c] [] [] a hl
        simp only [List.map_cons, List.map_nil] at ht
        simp only [List.map_cons, renE, AstOp.ren, emitFunctions, fuel_ren, ht]
        cases htr : traverse s fs s.fuel [c] [] [] a with
        | error e => rfl
        | ok res =>
          obtain ⟨t1, ex, a1⟩ := res
          have hf := fnToMir_ren h s k (.function n as c ty) t1
          simp only [AstOp.ren] at hf
          simp only [Except.map, renT, hf]
          cases fnToMir s k (.function n as c ty) t1 with
          | error e => rfl
          | ok mf =>
            have e1 : (ex.map (renE r)).reverse ++ stk.map (renE r) = (ex.reverse ++ stk).map (renE r) := by simp
            have e2 : out.map (MirFn.ren r) ++ [mf.ren r] = (out ++ [mf]).map (MirFn.ren r) := by simp
            simp only [e1, e2, mergeFns_ren h]
            exact ih _ _ _ _ (traverse_names htr hl)
      | _ => rfl

end

theorem compile_ren (h : Ren.Inj r) (s : St) (outs : List OutDecl) :
    compile (s.ren r) (outs.map (OutDecl.ren r)) = (compile s outs).map (MirProg.ren r) := by
  simp only [compile, bind, Except.bind]
  have hc := compileOutputs_ren h s outs [] [] [] {} (by intro l hl; cases hl)
  simp only [List.map_nil, show CAcc.ren r {} = {} from rfl] at hc
  rw [hc]
  cases hco : compileOutputs s outs [] [] [] {} with
  | error e => rfl
  | ok res =>
    obtain ⟨table, functions, mouts, acc⟩ := res
    have hl : LitNames acc.literals := compileOutputs_names hco (by intro l hl; cases hl)
    simp only [Except.map, renO, length_ren]
    have he := emitFunctions_ren h s (s.ops.length + 1) functions.reverse functions [] acc hl
    simp only [List.map_reverse, List.map_nil] at he
    rw [he]
    cases emitFunctions s (s.ops.length + 1) functions.reverse functions [] acc with
    | error e => rfl
    | ok fr =>
      obtain ⟨fns, acc2⟩ := fr
      simp only [Except.map, renF, MirProg.ren, CAcc.ren, Except.ok.injEq, MirProg.mk.injEq, true_and, and_true]
      simp [List.flatMap_map, List.map_flatMap, renB]

end NadaVerif.Lemmas
