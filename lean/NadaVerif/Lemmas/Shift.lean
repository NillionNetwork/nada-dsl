/-
C08 — tracing is equivariant under the id shift an earlier history induces.

`Val.shift k`, `RVal.shift k`, `Frame.shift k`: add `k` to every operation id.
`Rel k hist s t`: state `t` is state `s` with every id shifted by `k` and every literal under the name its key has in `t`'s
table, on top of the records `hist` of an earlier history (of the literal tables only this: `s`'s has no duplicates,
every key of it is in `t`'s, and every literal index a record of `s` carries lies inside it — so that the renaming is
injective and stays the same on stored records when both tables grow).
`Sim R Q x y`: from `R`-related states the two computations fail alike (same error) or succeed with `Q`-related results,
in `R`-related states.  Each command of `exec` is walked once (`es_…`), step against step, with `Sim.bindF`; the step on the right is
the step on the left on shifted data, and where a value is a constructor `Val.shift` unfolds by computation, so the right side
is rewritten only where a test on it has to be read as the same test (`sameClass_shift`, `toList_shift`, …).  The clause of a
command is reached by unfolding, which `exact` and `refine` do (`simp only [exec, shiftRegs_get]` where it begins by matching
on a register, to rewrite that read).  A `match` of `exec` is followed by `cases`, constructor by constructor and as deep as
it looks: then it computes on both sides, the shifts keeping the constructor.
-/
import NadaVerif.Lemmas.Run
import NadaVerif.Lemmas.TraceInv
import NadaVerif.Lemmas.Rename
import NadaVerif.Lemmas.Mono

namespace NadaVerif

def sh (k i : Nat) : Nat := i + k

mutual
def Val.shift (k : Nat) : Val → Val
  | .scalar t c l => .scalar t (c.map (sh k)) l
  | .array e n c => .array (Elem.shift k e) n (c.map (sh k))
  | .tuple l r c => .tuple (Elem.shift k l) (Elem.shift k r) (c.map (sh k))
  | .ntuple vs c => .ntuple (Vals.shift k vs) (c.map (sh k))
  | .object fs c => .object (VFields.shift k fs) (c.map (sh k))
def Elem.shift (k : Nat) : Elem → Elem
  | .cls t => .cls t
  | .inst v => .inst (Val.shift k v)
  | .typeVar => .typeVar
  | .arrayType e n => .arrayType (Elem.shift k e) n
def Vals.shift (k : Nat) : Vals → Vals
  | .nil => .nil
  | .cons v vs => .cons (Val.shift k v) (Vals.shift k vs)
def VFields.shift (k : Nat) : VFields → VFields
  | .nil => .nil
  | .cons n v fs => .cons n (Val.shift k v) (VFields.shift k fs)
end

def RVal.shift (k : Nat) : RVal → RVal
  | .val v => .val (v.shift k)
  | .fn id ret ps => .fn (sh k id) ret ps
  | .party n => .party n
  | .input id n p d => .input (sh k id) n p d
  | .dead => .dead

def Frame.shift (k : Nat) (f : Frame) : Frame :=
  { f with fid := sh k f.fid, params := f.params.map fun p => (sh k p.1, p.2.shift k) }

def AstOp.shift (k : Nat) (op : AstOp) : AstOp := op.ren ⟨sh k, id⟩

/-- forget the literal's position in the process-wide table -/
def AstOp.eraseIdx : AstOp → AstOp
  | .literal v _ ty => .literal v 0 ty
  | op => op

end NadaVerif

namespace NadaVerif.Lemmas
open NadaVerif

def eraseE (e : Id × AstOp) : Id × AstOp := (e.1, e.2.eraseIdx)
def shiftEraseE (k : Nat) (e : Id × AstOp) : Id × AstOp := (sh k e.1, (e.2.shift k).eraseIdx)

/-- the literal renaming two literal tables induce: index `i` of `ls` goes to the index of the same key in `lt`
(indices outside `ls` go beyond `lt`, so that the map is injective everywhere) -/
def mkLit (ls lt : List String) (i : Nat) : Nat :=
  match ls[i]? with
  | some key => lt.idxOf key
  | none => lt.length + i

/-- the renaming an earlier history induces: ids shifted, literal names by key -/
def shiftRen (k : Nat) (ls lt : List String) : Ren := ⟨sh k, mkLit ls lt⟩

/-- `t` is `s` renamed on top of `hist`: ids shifted by `k`, every literal under the name its key has in `t`'s table -/
structure Rel (k : Nat) (hist : List (Id × AstOp)) (s t : St) : Prop where
  counter : t.counter = s.counter + k
  ops : t.ops = s.ops.map (renE (shiftRen k s.lits t.lits)) ++ hist
  nodup : s.lits.Nodup
  sub : ∀ key ∈ s.lits, key ∈ t.lits
  inv : ∀ e ∈ s.ops, ∀ v i ty, e.2 = AstOp.literal v i ty → i < s.lits.length

def shiftRegs (k : Nat) (regs : List RVal) : List RVal := regs.map (RVal.shift k)
def shiftFrames (k : Nat) (fs : List Frame) : List Frame := fs.map (Frame.shift k)

/-- machine `m'` is machine `m` shifted by `k` on top of `hist` -/
structure MRel (k : Nat) (hist : List (Id × AstOp)) (m m' : Mach) : Prop where
  st : Rel k hist m.st m'.st
  regs : m'.regs = shiftRegs k m.regs
  frames : m'.frames = shiftFrames k m.frames

theorem sh_inj {k a b : Nat} : sh k a = sh k b ↔ a = b := by
  unfold sh; omega

variable {α β γ δ : Type} {R : St → St → Prop} {k : Nat} {hist : List (Id × AstOp)}

/-- the two computations behave alike from these two states -/
def SimAt (R : St → St → Prop) (Q : α → β → Prop) (x : M α) (y : M β) (s t : St) : Prop :=
  match x.run.run s, y.run.run t with
  | (.ok a, s'), (.ok b, t') => Q a b ∧ R s' t'
  | (.error e, s'), (.error e', t') => e = e' ∧ R s' t'
  | _, _ => False

def Sim (R : St → St → Prop) (Q : α → β → Prop) (x : M α) (y : M β) : Prop :=
  ∀ s t, R s t → SimAt R Q x y s t

theorem SimAt.mono {R' : St → St → Prop} {Q : α → β → Prop} {x : M α} {y : M β} {s t : St}
    (hRR : ∀ s t, R s t → R' s t) (h : SimAt R Q x y s t) : SimAt R' Q x y s t := by
  unfold SimAt at h ⊢
  split at h
  · exact ⟨h.1, hRR _ _ h.2⟩
  · exact ⟨h.1, hRR _ _ h.2⟩
  · exact h.elim

theorem Sim.pure {Q : α → β → Prop} {a : α} {b : β} (h : Q a b) : Sim R Q (pure a : M α) (pure b : M β) :=
  fun _ _ hR => And.intro h hR

theorem Sim.throw {Q : α → β → Prop} (e : Err) : Sim R Q (throw e : M α) (throw e : M β) :=
  fun _ _ hR => And.intro rfl hR

theorem Sim.get : Sim R (fun a b => R a b) (get : M St) (get : M St) :=
  fun _ _ hR => And.intro hR hR

theorem Sim.bind {Q : α → β → Prop} {Q' : γ → δ → Prop} {x : M α} {y : M β} {f : α → M γ} {g : β → M δ}
    (h1 : Sim R Q x y) (h2 : ∀ a b, Q a b → Sim R Q' (f a) (g b)) : Sim R Q' (x >>= f) (y >>= g) := by
  intro s t hR
  have := h1 s t hR
  unfold SimAt at this ⊢
  rw [bind_run, bind_run]
  split at this
  · rename_i e1 e2; rw [e1, e2]; exact h2 _ _ this.1 _ _ this.2
  · rename_i e1 e2; rw [e1, e2]; exact this
  · exact this.elim

/-- `bind` when the first results are related by a function `φ` (they always are here: `φ` is the shift of that type) -/
theorem Sim.bindF {Q' : γ → δ → Prop} {x : M α} {y : M β} {f : α → M γ} {g : β → M δ} {φ : α → β}
    (h1 : Sim R (fun a b => b = φ a) x y) (h2 : ∀ a, Sim R Q' (f a) (g (φ a))) : Sim R Q' (x >>= f) (y >>= g) :=
  Sim.bind h1 fun a _ h => h ▸ h2 a

theorem Sim.pure_bind {Q : γ → δ → Prop} {a : α} {b : β} {f : α → M γ} {g : β → M δ} (h : Sim R Q (f a) (g b)) :
    Sim R Q (Pure.pure a >>= f) (Pure.pure b >>= g) := h

theorem Sim.ite {Q : α → β → Prop} {c : Prop} [Decidable c] {x y : M α} {x' y' : M β}
    (h1 : Sim R Q x x') (h2 : Sim R Q y y') : Sim R Q (if c then x else y) (if c then x' else y') := by
  split <;> assumption

theorem Sim.lift (e : Except Err α) : Sim R (fun a b => b = a) (liftE e) (liftE e) := by
  cases e with
  | ok a => exact Sim.pure rfl
  | error e => exact Sim.throw e

theorem Sim.mapM {f : α → M β} {g : γ → M δ} {ψ : α → γ} {φ : β → δ}
    (h : ∀ x, Sim R (fun a b => b = φ a) (f x) (g (ψ x))) :
    ∀ xs : List α, Sim R (fun a b => b = a.map φ) (xs.mapM f) ((xs.map ψ).mapM g)
  | [] => by simp only [List.map_nil, List.mapM_nil]; exact Sim.pure rfl
  | x :: xs => by
    simp only [List.map_cons, List.mapM_cons]
    exact Sim.bindF (h x) fun _ => Sim.bindF (Sim.mapM h xs) fun _ => Sim.pure rfl

theorem Sim.mapM' {f : α → M β} {g : α → M δ} {φ : β → δ} (h : ∀ x, Sim R (fun a b => b = φ a) (f x) (g x)) (xs : List α) :
    Sim R (fun a b => b = a.map φ) (xs.mapM f) (xs.mapM g) := by
  have := Sim.mapM (ψ := id) h xs
  rwa [List.map_id] at this

mutual
theorem toMir_shift (k : Nat) : ∀ (v : Val), (v.shift k).toMir = v.toMir
  | .scalar t c l => rfl
  | .array e n c => by simp only [Val.shift, Val.toMir, innerType_shift k e]
  | .tuple l r c => by simp only [Val.shift, Val.toMir, sideType_shift k l, sideType_shift k r]
  | .ntuple vs c => by simp only [Val.shift, Val.toMir, memberTypes_shift k vs]
  | .object fs c => by simp only [Val.shift, Val.toMir, fieldTypes_shift k fs]
theorem innerType_shift (k : Nat) : ∀ (e : Elem), (e.shift k).innerType = e.innerType
  | .cls t => rfl
  | .inst v => by simp only [Elem.shift, Elem.innerType, toMir_shift k v]
  | .typeVar => rfl
  | .arrayType e n => by simp only [Elem.shift, Elem.innerType, asInstance_shift k e]
theorem sideType_shift (k : Nat) : ∀ (e : Elem), (e.shift k).sideType = e.sideType
  | .cls t => rfl
  | .inst v => by simp only [Elem.shift, Elem.sideType, toMir_shift k v]
  | .typeVar => rfl
  | .arrayType e n => by simp only [Elem.shift, Elem.sideType, asInstance_shift k e]
theorem asInstance_shift (k : Nat) : ∀ (e : Elem), (e.shift k).asInstanceToMir = e.asInstanceToMir
  | .cls t => rfl
  | .inst v => by simp only [Elem.shift, Elem.asInstanceToMir, toMir_shift k v]
  | .typeVar => rfl
  | .arrayType e n => by simp only [Elem.shift, Elem.asInstanceToMir, asInstance_shift k e]
theorem memberTypes_shift (k : Nat) : ∀ (vs : Vals), (vs.shift k).memberTypes = vs.memberTypes
  | .nil => rfl
  | .cons v vs => by simp only [Vals.shift, Vals.memberTypes, toMir_shift k v, memberTypes_shift k vs]
theorem fieldTypes_shift (k : Nat) : ∀ (fs : VFields), (fs.shift k).memberTypes = fs.memberTypes
  | .nil => rfl
  | .cons n v fs => by simp only [VFields.shift, VFields.memberTypes, toMir_shift k v, fieldTypes_shift k fs]
end

/-- `to_mir()` does not look at ids.  Used with `v` the left value: the right value is `v.shift k` by computation. -/
theorem Sim.toMir (v : Val) : Sim R (fun a b => b = a) (liftE v.toMir) (liftE (v.shift k).toMir) :=
  (toMir_shift k v).symm ▸ Sim.lift _

theorem child_shift (k : Nat) (v : Val) : (v.shift k).child = v.child.map (sh k) := by
  cases v <;> rfl

theorem withChild_shift (v : Val) (c : Id) : (v.shift k).withChild (sh k c) = (v.withChild c).shift k := by
  cases v <;> rfl

theorem isLiteralScalar_shift (v : Val) : isLiteralScalar (v.shift k) = isLiteralScalar v := by
  cases v <;> rfl

theorem sameClass_shift (a b : Val) : sameClass (a.shift k) (b.shift k) = sameClass a b := by
  cases a <;> cases b <;> rfl

theorem scalarClass_shift (e : Elem) : (e.shift k).scalarClass = e.scalarClass := by
  cases e with
  | inst v => cases v <;> rfl
  | _ => rfl

theorem ofList_shift : ∀ (vs : List Val), Vals.ofList (vs.map (Val.shift k)) = (Vals.ofList vs).shift k
  | [] => rfl
  | _ :: vs => congrArg (Vals.cons _) (ofList_shift vs)

theorem toList_shift : ∀ (vs : Vals), (vs.shift k).toList = vs.toList.map (Val.shift k)
  | .nil => rfl
  | .cons _ vs => congrArg (_ :: ·) (toList_shift vs)

theorem fofList_shift : ∀ (fs : List (String × Val)),
    VFields.ofList (fs.map fun p => (p.1, p.2.shift k)) = (VFields.ofList fs).shift k
  | [] => rfl
  | _ :: fs => congrArg (VFields.cons _ _) (fofList_shift fs)

theorem ftoList_shift : ∀ (fs : VFields), (fs.shift k).toList = fs.toList.map fun p => (p.1, p.2.shift k)
  | .nil => rfl
  | .cons _ _ fs => congrArg (_ :: ·) (ftoList_shift fs)

theorem shiftRegs_get (k : Nat) (regs : List RVal) (r : Nat) : (shiftRegs k regs)[r]? = (regs[r]?).map (RVal.shift k) :=
  List.getElem?_map

theorem mkLit_stable (ls lt : List String) (key : String) (hsub : ∀ x ∈ ls, x ∈ lt) (i : Nat) (hi : i < ls.length) :
    mkLit (internAt ls key).2 (internAt lt key).2 i = mkLit ls lt i := by
  unfold mkLit
  rw [(internAt_old ls key hi), List.getElem?_eq_getElem hi]
  have hm : ls[i] ∈ lt := hsub _ (List.getElem_mem hi)
  rcases internAt_cases lt key with ⟨_, e⟩ | ⟨_, e⟩ <;> rw [e]
  simp only [List.idxOf_append, if_pos hm]

theorem mkLit_new (ls lt : List String) (key : String) :
    mkLit (internAt ls key).2 (internAt lt key).2 (internAt ls key).1 = (internAt lt key).1 := by
  unfold mkLit
  rw [internAt_get]
  exact internAt_idx lt key

theorem mkLit_inj (ls lt : List String) (hn : ls.Nodup) (hsub : ∀ x ∈ ls, x ∈ lt) (a b : Nat)
    (h : mkLit ls lt a = mkLit ls lt b) : a = b := by
  -- inside `ls` the image is the place of the same key in `lt`; outside it lies beyond `lt`
  have inside : ∀ i (hi : i < ls.length), lt[mkLit ls lt i]? = some ls[i] := fun i hi => by
    rw [mkLit, List.getElem?_eq_getElem hi]
    exact List.getElem?_eq_some_iff.mpr ⟨List.idxOf_lt_length_of_mem (hsub _ (List.getElem_mem hi)), List.getElem_idxOf _⟩
  have outside : ∀ i, ls.length ≤ i → mkLit ls lt i = lt.length + i := fun i hi => by
    rw [mkLit, List.getElem?_eq_none hi]
  rcases Nat.lt_or_ge a ls.length with ha | ha <;> rcases Nat.lt_or_ge b ls.length with hb | hb
  · have := inside a ha
    rw [h, inside b hb] at this
    exact ((List.getElem_inj hn).mp (Option.some.inj this)).symm
  · have := (List.getElem?_eq_some_iff.mp (inside a ha)).1
    rw [h, outside b hb] at this
    omega
  · have := (List.getElem?_eq_some_iff.mp (inside b hb)).1
    rw [← h, outside a ha] at this
    omega
  · rw [outside a ha, outside b hb] at h
    omega

theorem shiftRen_inj (ls lt : List String) (hn : ls.Nodup) (hsub : ∀ x ∈ ls, x ∈ lt) : Ren.Inj (shiftRen k ls lt) :=
  ⟨fun _ _ h => sh_inj.mp h, mkLit_inj ls lt hn hsub⟩

theorem ren_congr {f : Nat → Nat} {l l' : Nat → Nat} (op : AstOp) (h : ∀ v i ty, op = .literal v i ty → l i = l' i) :
    op.ren ⟨f, l⟩ = op.ren ⟨f, l'⟩ := by
  cases op with
  | literal v i ty => exact congrArg (AstOp.literal v · ty) (h v i ty rfl)
  | _ => rfl

theorem map_renE_stable (ops : List (Id × AstOp)) (ls lt : List String) (key : String) (hsub : ∀ x ∈ ls, x ∈ lt)
    (hinv : ∀ e ∈ ops, ∀ v i ty, e.2 = AstOp.literal v i ty → i < ls.length) :
    ops.map (renE (shiftRen k (internAt ls key).2 (internAt lt key).2)) = ops.map (renE (shiftRen k ls lt)) :=
  List.map_congr_left fun e he =>
    congrArg (Prod.mk _) (ren_congr e.2 fun v i ty h => mkLit_stable ls lt key hsub i (hinv e he v i ty h))

/-- `Integer(v)` & co.: the one step that touches the literal table -/
theorem mkLiteral_sim (base : Base) (v : LitVal) :
    Sim (Rel k hist) (fun a b => b = a.shift k) (mkLiteral base v) (mkLiteral base v) := by
  intro s t hR
  unfold SimAt
  rw [mkLiteral_run, mkLiteral_run]
  have hc : t.counter + 1 = sh k (s.counter + 1) := by rw [hR.counter, sh]; omega
  refine ⟨by rw [hc]; rfl, hc, ?_, internAt_nodup _ hR.nodup, fun x hx => mem_internAt.mpr ((mem_internAt.mp hx).imp_left (hR.sub x)), ?_⟩
  · -- the new record under the name its key has on the right, the old ones as before
    rw [List.map_cons, map_renE_stable _ _ _ _ hR.sub hR.inv, List.cons_append, ← hR.ops, hc]
    exact congrArg (fun j => (_, AstOp.literal _ j _) :: t.ops) (mkLit_new _ _ _).symm
  · intro e he v' n ty heq
    rcases List.mem_cons.mp he with rfl | he
    · cases heq
      exact (List.getElem?_eq_some_iff.mp (internAt_get _ _)).1
    · exact Nat.lt_of_lt_of_le (hR.inv e he v' n ty heq) (internAt_prefix _ _).length_le

theorem Sim.alloc : Sim (Rel k hist) (fun a b => b = sh k a) alloc alloc := fun s t hR =>
  have hc : t.counter + 1 = sh k (s.counter + 1) := by rw [hR.counter, sh]; omega
  And.intro hc ⟨hc, hR.ops, hR.nodup, hR.sub, hR.inv⟩

/-- storing a record that is not a literal: its renaming does not depend on the literal names -/
theorem Sim.put {i : Id} {op op' : AstOp} (hop : ∀ l, op.ren ⟨sh k, l⟩ = op') :
    Sim (Rel k hist) (fun _ b => b = ()) (put i op) (put (sh k i) op') := fun s t hR =>
  And.intro rfl
    ⟨hR.counter, hop (mkLit s.lits t.lits) ▸ congrArg (_ :: ·) hR.ops, hR.nodup, hR.sub, by
      intro e he v n ty heq
      rcases List.mem_cons.mp he with rfl | he
      · -- `op` is no literal: a literal would be renamed differently by two different literal maps
        have h0 := hop fun _ => 0
        rw [← hop fun _ => 1, show op = .literal v n ty from heq] at h0
        cases h0
      · exact hR.inv e he v n ty heq⟩

theorem getVal_sim (regs : List RVal) (r : Reg) :
    Sim R (fun a b => b = a.shift k) (getVal regs r) (getVal (shiftRegs k regs) r) := by
  unfold getVal
  rw [shiftRegs_get]
  cases regs[r]? with
  | none => exact Sim.throw _
  | some x =>
    cases x with
    | val => exact Sim.pure rfl
    | _ => exact Sim.throw _

theorem getScalar_sim (regs : List RVal) (r : Reg) :
    Sim R (fun a b => b = (a.1, sh k a.2.1, a.2.2)) (getScalar regs r) (getScalar (shiftRegs k regs) r) := by
  refine Sim.bindF (getVal_sim regs r) fun v => ?_
  cases v with
  | scalar _ c _ =>
    cases c with
    | none => exact Sim.throw _
    | some _ => exact Sim.pure rfl
  | _ => exact Sim.throw _

theorem getField_sim (regs : List RVal) (x : String × Reg) :
    Sim R (fun (a b : String × Val) => b = (a.1, a.2.shift k)) (do let v ← getVal regs x.2; pure (x.1, v))
      (do let v ← getVal (shiftRegs k regs) x.2; pure (x.1, v)) :=
  Sim.bindF (getVal_sim regs x.2) fun _ => Sim.pure rfl

theorem childOf_sim (v : Val) : Sim R (fun a b => b = sh k a) (childOf v) (childOf (v.shift k)) := by
  unfold childOf
  rw [child_shift]
  cases v.child with
  | none => exact Sim.throw _
  | some c => exact Sim.pure rfl

theorem childIds_sim (vs : List Val) : Sim R (fun a b => b = a.map (sh k)) (childIds vs) (childIds (vs.map (Val.shift k))) :=
  Sim.mapM childOf_sim vs

theorem scalarResult_sim {out : Out} {foldE : Option (Py.PyExpr × Base)} {l r : Option LitVal} {mkOp mkOp' : MTy → AstOp}
    (hmk : ∀ ty l, (mkOp ty).ren ⟨sh k, l⟩ = mkOp' ty) :
    Sim (Rel k hist) (fun a b => b = a.shift k) (scalarResult out foldE l r mkOp) (scalarResult out foldE l r mkOp') := by
  unfold scalarResult
  cases out with
  | reject => exact Sim.throw _
  | ok _ fold =>
    cases fold with
    | false => exact Sim.bindF Sim.alloc fun _ => Sim.bindF (Sim.put (hmk _)) fun _ => Sim.pure rfl
    | true =>
      -- folding: the same computation on both sides
      simp only
      split
      · split
        · exact Sim.throw _
        · split
          · exact mkLiteral_sim _ _
          · exact Sim.throw _
      · exact Sim.throw _

theorem genAccessor_sim (m : Val) {id : Id} {mk mk' : MTy → AstOp} (hmk : ∀ ty l, (mk ty).ren ⟨sh k, l⟩ = mk' ty) :
    Sim (Rel k hist) (fun a b => b = a.shift k) (genAccessor m id mk) (genAccessor (m.shift k) (sh k id) mk') := by
  cases m with
  | scalar => exact Sim.ite (Sim.pure rfl) (Sim.bindF (Sim.put (hmk _)) fun _ => Sim.pure rfl)
  | tuple => exact Sim.throw _
  | _ => exact Sim.bindF (Sim.toMir _) fun _ => Sim.bindF (Sim.put (hmk _)) fun _ => Sim.pure rfl

theorem template_sim : ∀ (ann : Ann), Sim (Rel k hist) (fun a b => b = a.shift k) (template ann) (template ann)
  | .scalar _ => Sim.ite (mkLiteral_sim _ _) (Sim.pure rfl)
  | .array inner => Sim.bindF (template_sim inner) fun _ => Sim.pure rfl
  | .bareArray => Sim.throw _

theorem bindParams_sim (fid : Id) : ∀ (ps : List (String × Ann)),
    Sim (Rel k hist) (fun a b => b = (a.1.map (fun p => (sh k p.1, p.2.shift k)), shiftRegs k a.2))
      (bindParams fid ps) (bindParams (sh k fid) ps)
  | [] => Sim.pure rfl
  | (_, ann) :: rest =>
    Sim.bindF (template_sim ann) fun tmpl => Sim.bindF Sim.alloc fun p => Sim.bindF (Sim.toMir tmpl) fun _ =>
      Sim.bindF (Sim.put fun _ => rfl) fun _ => Sim.bindF (bindParams_sim fid rest) fun _ =>
        Sim.pure (withChild_shift tmpl p ▸ rfl)

def ResRel (k : Nat) (a b : List RVal × List Frame) : Prop := b = (shiftRegs k a.1, shiftFrames k a.2)

abbrev ExecSim (k : Nat) (hist : List (Id × AstOp)) (regs : List RVal) (frames : List Frame) (c : Cmd) : Prop :=
  Sim (Rel k hist) (ResRel k) (exec regs frames c) (exec (shiftRegs k regs) (shiftFrames k frames) c)

variable {regs : List RVal} {frames : List Frame}

/-- a command that binds the one value a computation returns -/
theorem Sim.one {x y : M Val} (h : Sim R (fun a b => b = a.shift k) x y) :
    Sim R (ResRel k) (x >>= fun v => (Pure.pure ([.val v], frames) : M (List RVal × List Frame)))
      (y >>= fun v => (Pure.pure ([.val v], shiftFrames k frames) : M (List RVal × List Frame))) :=
  Sim.bindF h fun _ => .pure rfl

theorem es_nop : ExecSim k hist regs frames .nop := Sim.throw _

theorem es_party {n} : ExecSim k hist regs frames (.party n) := Sim.pure rfl

theorem es_inputObj {name doc p} : ExecSim k hist regs frames (.inputObj name doc p) := by
  simp only [ExecSim, exec, shiftRegs_get]
  cases regs[p]? with
  | none => exact Sim.throw _
  | some x =>
    cases x with
    | party => exact Sim.bindF Sim.alloc fun _ => Sim.pure rfl
    | _ => exact Sim.throw _

theorem es_wrap {t r} : ExecSim k hist regs frames (.wrap t r) := by
  simp only [ExecSim, exec, shiftRegs_get]
  cases regs[r]? with
  | none => exact Sim.throw _
  | some x =>
    cases x with
    | input => exact Sim.ite (Sim.throw _) <| Sim.bindF (Sim.put fun _ => rfl) fun _ => Sim.pure rfl
    | _ => exact Sim.throw _

theorem es_lit {base v} : ExecSim k hist regs frames (.lit base v) := by
  simp only [ExecSim, exec]
  split
  · exact Sim.one (mkLiteral_sim _ _)
  · exact Sim.one (mkLiteral_sim _ _)
  · exact Sim.one (mkLiteral_sim _ _)
  · exact Sim.throw _

theorem es_bin {op a b} : ExecSim k hist regs frames (.bin op a b) :=
  Sim.bindF (getScalar_sim regs a) fun _ => Sim.bindF (getScalar_sim regs b) fun _ =>
    Sim.one (scalarResult_sim fun _ _ => rfl)

theorem es_invert {a} : ExecSim k hist regs frames (.invert a) :=
  Sim.bindF (getScalar_sim regs a) fun _ => Sim.one (scalarResult_sim fun _ _ => rfl)

theorem es_reveal {a} : ExecSim k hist regs frames (.reveal a) := by
  refine Sim.bindF (getScalar_sim regs a) fun (ta, _, _) => ?_
  simp only
  split
  · exact Sim.pure rfl
  · exact Sim.one (scalarResult_sim fun _ _ => rfl)

theorem es_truncPr {a b} : ExecSim k hist regs frames (.truncPr a b) :=
  Sim.bindF (getScalar_sim regs a) fun _ => Sim.bindF (getScalar_sim regs b) fun _ =>
    Sim.one (scalarResult_sim fun _ _ => rfl)

theorem es_publicEquals {a b} : ExecSim k hist regs frames (.publicEquals a b) :=
  Sim.bindF (getScalar_sim regs a) fun _ => Sim.bindF (getScalar_sim regs b) fun _ =>
    Sim.one (scalarResult_sim fun _ _ => rfl)

theorem es_ifElse {c a b} : ExecSim k hist regs frames (.ifElse c a b) :=
  Sim.bindF (getScalar_sim regs c) fun _ => Sim.bindF (getScalar_sim regs a) fun _ => Sim.bindF (getScalar_sim regs b) fun _ =>
    Sim.one (scalarResult_sim fun _ _ => rfl)

theorem es_random {t} : ExecSim k hist regs frames (.random t) :=
  Sim.one (scalarResult_sim fun _ _ => rfl)

theorem es_radd {n a} : ExecSim k hist regs frames (.radd n a) := by
  refine Sim.bindF (getScalar_sim regs a) fun _ => Sim.ite (Sim.throw _) <| Sim.bindF (mkLiteral_sim _ _) fun v => ?_
  cases v with
  | scalar _ c _ =>
    cases c with
    | none => exact Sim.throw _
    | some _ => exact Sim.one (scalarResult_sim fun _ _ => rfl)
  | _ => exact Sim.throw _

theorem es_arrayNew {xs} : ExecSim k hist regs frames (.arrayNew xs) := by
  refine Sim.bindF (Sim.mapM' (getVal_sim regs) xs) fun vs => ?_
  cases vs with
  | nil => exact Sim.throw _
  | cons first rest =>
    refine Sim.bindF (Sim.toMir first) fun fty => Sim.bindF (Sim.mapM (ψ := Val.shift k) Sim.toMir _) fun tys => ?_
    -- the test is the same on both sides
    simp only [List.all_map, List.length_map, List.map_id', sameClass_shift, Function.comp_def]
    exact Sim.ite (Sim.throw _) <| Sim.bindF Sim.alloc fun _ => Sim.bindF (Sim.toMir _) fun _ =>
      Sim.bindF (childIds_sim _) fun _ => Sim.bindF (Sim.put fun _ => rfl) fun _ => Sim.pure rfl

theorem es_tupleNew {a b} : ExecSim k hist regs frames (.tupleNew a b) :=
  Sim.bindF (getVal_sim regs a) fun va => Sim.bindF (getVal_sim regs b) fun vb => Sim.bindF Sim.alloc fun _ =>
    Sim.bindF (Sim.toMir _) fun _ => Sim.bindF (childIds_sim [va, vb]) fun _ => Sim.bindF (Sim.put fun _ => rfl) fun _ => Sim.pure rfl

theorem es_ntupleNew {xs} : ExecSim k hist regs frames (.ntupleNew xs) := by
  refine Sim.bindF (Sim.mapM' (getVal_sim regs) xs) fun vs => Sim.bindF Sim.alloc fun _ => ?_
  rw [ofList_shift]
  exact Sim.bindF (Sim.toMir _) fun _ => Sim.bindF (childIds_sim _) fun _ => Sim.bindF (Sim.put fun _ => rfl) fun _ => Sim.pure rfl

theorem es_objectNew {fs} : ExecSim k hist regs frames (.objectNew fs) := by
  refine Sim.bindF (Sim.mapM' (getField_sim regs) fs) fun vs => ?_
  simp only [List.map_map, Function.comp_def, List.length_map, fofList_shift]
  refine Sim.ite (Sim.throw _) <| Sim.bindF Sim.alloc fun _ => Sim.bindF (Sim.toMir _) fun _ => ?_
  have hc := childIds_sim (R := Rel k hist) (k := k) (vs.map (·.2))
  simp only [List.map_map, Function.comp_def] at hc
  exact Sim.bindF hc fun _ => Sim.bindF (Sim.put fun _ => rfl) fun _ => Sim.pure rfl

theorem es_ntupleGet {r i} : ExecSim k hist regs frames (.ntupleGet r i) := by
  refine Sim.bindF (getVal_sim regs r) fun v => ?_
  cases v with
  | ntuple vs c =>
    cases c with
    | none => exact Sim.throw _
    | some _ =>
      simp only [Val.shift, Option.map, toList_shift, List.length_map, List.getElem?_map]
      refine Sim.ite (Sim.throw _) <| Sim.bindF Sim.alloc fun _ => ?_
      cases vs.toList[(if i < 0 then i + ↑vs.toList.length else i).toNat]? with
      | none => exact Sim.throw _
      | some m => exact Sim.one (genAccessor_sim m fun _ _ => rfl)
  | _ => exact Sim.throw _

theorem es_objectGet {r key} : ExecSim k hist regs frames (.objectGet r key) := by
  refine Sim.bindF (getVal_sim regs r) fun v => ?_
  cases v with
  | object fs c =>
    cases c with
    | none => exact Sim.throw _
    | some _ =>
      simp only [Val.shift, Option.map, ftoList_shift, List.find?_map, Function.comp_def]
      refine Sim.ite (Sim.throw _) ?_
      cases fs.toList.find? (fun x => x.1 == key) with
      | none => exact Sim.throw _
      | some p => exact Sim.bindF Sim.alloc fun _ => Sim.one (genAccessor_sim p.2 fun _ _ => rfl)
  | _ => exact Sim.throw _

theorem es_zip {a b} : ExecSim k hist regs frames (.zip a b) := by
  refine Sim.bindF (getVal_sim regs a) fun va => Sim.bindF (getVal_sim regs b) fun vb => ?_
  cases va with
  | array ea na ca =>
    cases ca with
    | none => exact Sim.throw _
    | some _ =>
      cases vb with
      | array eb _ cb =>
        cases cb with
        | none => exact Sim.throw _
        | some _ =>
          exact Sim.ite (Sim.throw _) <| Sim.bindF Sim.alloc fun id =>
            Sim.bindF (Sim.toMir (.array (.inst (.tuple ea eb none)) na (some id))) fun _ => Sim.bindF (Sim.put fun _ => rfl) fun _ => Sim.pure rfl
      | _ => exact Sim.throw _
  | _ => exact Sim.throw _

theorem es_unzip {a} : ExecSim k hist regs frames (.unzip a) := by
  refine Sim.bindF (getVal_sim regs a) fun va => ?_
  -- the contained type is looked at before the child
  cases va with
  | array e _ c =>
    cases e with
    | inst w =>
      cases w with
      | tuple =>
        cases c with
        | none => exact Sim.throw _
        | some _ => exact Sim.bindF Sim.alloc fun _ => Sim.bindF (Sim.toMir _) fun _ => Sim.bindF (Sim.put fun _ => rfl) fun _ => Sim.pure rfl
      | _ => cases c <;> exact Sim.throw _
    | _ => cases c <;> exact Sim.throw _
  | _ => exact Sim.throw _

theorem es_map {a f} : ExecSim k hist regs frames (.map a f) := by
  refine Sim.bindF (getVal_sim regs a) fun va => ?_
  rw [shiftRegs_get]
  -- both sides throw alike unless `va` is an array with a child and `f` holds a function; which error, the register decides
  cases va with
  | array _ _ c =>
    cases c with
    | none => rcases regs[f]? with _ | _ | _ | _ | _ | _ <;> exact Sim.throw _
    | some _ =>
      cases regs[f]? with
      | none => exact Sim.throw _
      | some x =>
        cases x with
        | fn => exact Sim.bindF Sim.alloc fun _ => Sim.bindF (Sim.toMir _) fun _ => Sim.bindF (Sim.put fun _ => rfl) fun _ => Sim.pure rfl
        | _ => exact Sim.throw _
  | _ => rcases regs[f]? with _ | _ | _ | _ | _ | _ <;> exact Sim.throw _

theorem es_reduce {a f init} : ExecSim k hist regs frames (.reduce a f init) := by
  refine Sim.bindF (getVal_sim regs a) fun va => Sim.bindF (getVal_sim regs init) fun vi => ?_
  rw [shiftRegs_get]
  cases va with
  | array _ _ c =>
    cases c with
    | none => rcases regs[f]? with _ | _ | _ | _ | _ | _ <;> exact Sim.throw _
    | some _ =>
      cases regs[f]? with
      | none => exact Sim.throw _
      | some x =>
        cases x with
        | fn => exact Sim.bindF (childOf_sim vi) fun _ => Sim.bindF Sim.alloc fun _ => Sim.bindF (Sim.put fun _ => rfl) fun _ => Sim.pure rfl
        | _ => exact Sim.throw _
  | _ => rcases regs[f]? with _ | _ | _ | _ | _ | _ <;> exact Sim.throw _

theorem es_innerProduct {a b} : ExecSim k hist regs frames (.innerProduct a b) := by
  refine Sim.bindF (getVal_sim regs a) fun va => Sim.bindF (getVal_sim regs b) fun vb => ?_
  cases va with
  | array ea _ ca =>
    cases ca with
    | none => exact Sim.throw _
    | some _ =>
      cases vb with
      | array eb _ cb =>
        cases cb with
        | none => exact Sim.throw _
        | some _ =>
          simp only [Val.shift, Option.map, innerType_shift, scalarClass_shift]
          refine Sim.ite (Sim.throw _) <| Sim.bindF (Sim.lift _) fun _ => Sim.bindF (Sim.lift _) fun _ => Sim.ite (Sim.throw _) ?_
          cases ea.scalarClass with
          | none => exact Sim.throw _
          | some tl =>
            cases eb.scalarClass with
            | none => exact Sim.throw _
            | some tr =>
              exact Sim.ite (Sim.throw _) <| Sim.ite (Sim.throw _) <| Sim.bindF Sim.alloc fun _ =>
                Sim.bindF (Sim.put fun _ => rfl) fun _ => Sim.pure rfl
      | _ => exact Sim.throw _
  | _ => exact Sim.throw _

theorem es_beginFn {name params} : ExecSim k hist regs frames (.beginFn name params) :=
  Sim.bindF Sim.alloc fun fid => Sim.bindF (bindParams_sim fid params) fun _ => Sim.pure rfl

theorem es_endFn {ret retAnn} : ExecSim k hist regs frames (.endFn ret retAnn) := by
  cases frames with
  | nil => exact Sim.throw _
  | cons fr rest =>
    simp only [ExecSim, exec, shiftFrames, List.map_cons, shiftRegs_get]
    cases regs[ret]? with
    | none => exact Sim.throw _
    | some x =>
      cases x with
      | val v =>
        have hall : (Frame.shift k fr).params.all (fun p => isLiteralScalar p.2) = fr.params.all (fun p => isLiteralScalar p.2) := by
          simp [Frame.shift, List.all_map, Function.comp_def, isLiteralScalar_shift]
        simp only [Option.map, RVal.shift, hall]
        refine Sim.ite (Sim.throw _) <| Sim.ite (Sim.throw _) ?_
        cases v with
        | scalar _ c _ =>
          cases c with
          | none => exact Sim.throw _
          | some _ =>
            exact Sim.ite (Sim.throw _) <| Sim.bindF (Sim.put fun _ => by simp [AstOp.ren, Frame.shift, Function.comp_def]) fun _ =>
              Sim.pure rfl
        | _ => exact Sim.throw _
      | _ => exact Sim.throw _

theorem es_call {f args kws} : ExecSim k hist regs frames (.call f args kws) := by
  simp only [ExecSim, exec, shiftRegs_get]
  cases regs[f]? with
  | none => exact Sim.throw _
  | some x =>
    cases x with
    | fn =>
      refine Sim.ite (Sim.throw _) ?_
      split
      · exact Sim.throw _
      · exact Sim.ite (Sim.throw _) <| Sim.bindF (Sim.mapM' (getVal_sim regs) _) fun _ => Sim.bindF Sim.alloc fun _ =>
          Sim.bindF (childIds_sim _) fun _ => Sim.bindF (Sim.put fun _ => rfl) fun _ => Sim.pure rfl
    | _ => exact Sim.throw _

/-- a record the unshifted store holds is found, renamed, in the related store — whatever the history holds -/
theorem lookup_rel {s t : St} (hR : Rel k hist s t) (c : Id) (op : AstOp) (hs : s.lookup c = some op) :
    t.lookup (sh k c) = some (op.ren (shiftRen k s.lits t.lits)) :=
  Extends.of_append (st := s.ren _) hR.ops _ _ <| by
    rw [show sh k c = (shiftRen k s.lits t.lits).id c from rfl, lookup_ren (shiftRen_inj _ _ hR.nodup hR.sub), hs]
    rfl

/-- the relation for `Array(value, size=…)`: the registers' ids are stored on the unshifted side -/
def RelS (k : Nat) (hist : List (Id × AstOp)) (regs : List RVal) (s t : St) : Prop :=
  Rel k hist s t ∧ RegsSto s.ops regs

theorem putS_sim {i : Id} {op op' : AstOp} (hop : ∀ l, op.ren ⟨sh k, l⟩ = op') :
    Sim (RelS k hist regs) (fun _ b => b = ()) (put i op) (put (sh k i) op') := fun s t hR =>
  And.intro rfl ⟨(Sim.put (hist := hist) hop s t hR.1).2, hR.2.mono fun _ ⟨o, ho⟩ => ⟨o, List.mem_cons_of_mem _ ho⟩⟩

/-- `Array(value, size=…)` re-types the input record of its operand -/
theorem es_arrayOf {r size} :
    Sim (RelS k hist regs) (ResRel k) (exec regs frames (.arrayOf r size))
      (exec (shiftRegs k regs) (shiftFrames k frames) (.arrayOf r size)) := by
  refine Sim.ite (Sim.throw _) ?_
  -- the two reads are opened: what follows needs to know that `c` is the child of the value in register `r`
  unfold getVal childOf
  rw [shiftRegs_get]
  cases hreg : regs[r]? with
  | none => exact Sim.throw _
  | some x =>
    cases x with
    | val v =>
      refine Sim.pure_bind ?_
      rw [child_shift]
      cases hch : v.child with
      | none => exact Sim.throw _
      | some c =>
        refine Sim.pure_bind <| Sim.bindF (Sim.toMir (.array (.inst v) size (some c))) fun ty => Sim.bind Sim.get fun s t hR => ?_
        -- the operand's id is stored, so the history's records cannot answer for it
        obtain ⟨op, hs⟩ := has_lookup s c (hR.2 _ (List.mem_of_getElem? hreg) c (child_mem_ids hch))
        rw [hs, lookup_rel hR.1 c op hs]
        cases op with
        | input => exact Sim.bindF (putS_sim fun _ => rfl) fun _ => Sim.pure rfl
        | _ => exact Sim.throw _
    | _ => exact Sim.throw _

/-- **every command** is equivariant under the shift, from related states whose unshifted side stores the ids its
registers mention (true of every reachable machine: `trace_ok`); only `Array(value, size=…)` needs that -/
theorem exec_sim_at (c : Cmd) (s t : St) (hR : Rel k hist s t) (hs : RegsSto s.ops regs) :
    SimAt (Rel k hist) (ResRel k) (exec regs frames c) (exec (shiftRegs k regs) (shiftFrames k frames) c) s t := by
  cases c with
  | arrayOf => exact (es_arrayOf s t ⟨hR, hs⟩).mono fun _ _ h => h.1
  | party => exact es_party s t hR
  | inputObj => exact es_inputObj s t hR
  | wrap => exact es_wrap s t hR
  | lit => exact es_lit s t hR
  | bin => exact es_bin s t hR
  | invert => exact es_invert s t hR
  | reveal => exact es_reveal s t hR
  | truncPr => exact es_truncPr s t hR
  | publicEquals => exact es_publicEquals s t hR
  | ifElse => exact es_ifElse s t hR
  | random => exact es_random s t hR
  | radd => exact es_radd s t hR
  | arrayNew => exact es_arrayNew s t hR
  | tupleNew => exact es_tupleNew s t hR
  | ntupleNew => exact es_ntupleNew s t hR
  | objectNew => exact es_objectNew s t hR
  | ntupleGet => exact es_ntupleGet s t hR
  | objectGet => exact es_objectGet s t hR
  | zip => exact es_zip s t hR
  | unzip => exact es_unzip s t hR
  | map => exact es_map s t hR
  | reduce => exact es_reduce s t hR
  | innerProduct => exact es_innerProduct s t hR
  | beginFn => exact es_beginFn s t hR
  | endFn => exact es_endFn s t hR
  | call => exact es_call s t hR
  | nop => exact es_nop s t hR

theorem step_sim {m m' : Mach} (h : MRel k hist m m') (hm : MachOK m) (c : Cmd) :
    MRel k hist (step m c).1 (step m' c).1 ∧ (step m c).2 = (step m' c).2 := by
  have hs := exec_sim_at (k := k) (hist := hist) (frames := m.frames) c m.st m'.st h.st hm.regsSto
  unfold step
  rw [h.regs, h.frames]
  unfold SimAt at hs
  split at hs
  · rename_i e1 e2
    rw [e1, e2, hs.1]
    exact ⟨⟨hs.2, List.map_append.symm, rfl⟩, rfl⟩
  · rename_i e1 e2
    rw [e1, e2, hs.1]
    refine ⟨⟨hs.2, by simp [shiftRegs, RVal.shift], ?_⟩, rfl⟩
    cases c <;> simp [shiftFrames]
  · exact hs.elim

theorem runCmds_sim : ∀ (cs : List Cmd) {m m' : Mach}, MRel k hist m m' → MachOK m →
    MRel k hist (runCmds m cs).1 (runCmds m' cs).1 ∧ (runCmds m cs).2 = (runCmds m' cs).2
  | [], _, _, h, _ => ⟨h, rfl⟩
  | c :: cs, m, m', h, hm => by
    have h1 := step_sim h hm c
    have h2 := runCmds_sim cs h1.1 (step_ok m c hm)
    simp only [runCmds]
    exact ⟨h2.1, by rw [h1.2, h2.2]⟩

end NadaVerif.Lemmas
