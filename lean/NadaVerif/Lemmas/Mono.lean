/-
Monotonicity of the compile model in the store (C08): if every record that `st` holds is also what `st'`
returns for that id (st' may hold anything else) and `st'` gives at least as much fuel, then whatever a
compilation from `st` answers — a MIR, or an error other than "an id is missing" / "out of fuel", the two a
larger store could turn into something else — the compilation from `st'` answers the same.
-/
import NadaVerif.Lemmas.Proc

namespace NadaVerif.Lemmas
open NadaVerif

/-- `st'` knows everything `st` knows -/
def Extends (st st' : St) : Prop := ∀ k op, st.lookup k = some op → st'.lookup k = some op

/-- an answer that more records or more fuel cannot change: a value, or an error other than "an id is missing" and
"out of fuel" -/
def Definite {α} (r : Except Err α) : Prop := ∀ e, r = .error e → e ≠ .key ∧ e ≠ .unsupported

/-- records behind those of `st` are never found first, and only add fuel -/
theorem Extends.of_append {st st' : St} {ops : List (Id × AstOp)} (h : st'.ops = st.ops ++ ops) : Extends st st' := by
  intro k op hl
  simp only [St.lookup, Option.map_eq_some_iff] at hl ⊢
  obtain ⟨e, he, rfl⟩ := hl
  exact ⟨e, by rw [h, List.find?_append, he]; rfl, rfl⟩

theorem fuel_le_of_append {st st' : St} {ops : List (Id × AstOp)} (h : st'.ops = st.ops ++ ops) : st.fuel ≤ st'.fuel := by
  simp only [St.fuel, h, List.map_append, List.sum_append]
  omega

theorem Definite.of_ok {α} {r : Except Err α} {a : α} (h : r = .ok a) : Definite r := by
  subst h; exact nofun

theorem Definite.of_error {α} {r : Except Err α} {e : Err} (h : r = .error e) (he : e ≠ .key ∧ e ≠ .unsupported) :
    Definite r := by
  subst h; rintro _ ⟨⟩; exact he

section
variable {st st' : St} (h : Extends st st')
include h

theorem findFn_mono (fs : List (Id × AstOp)) (fn : Id)
    (hd : findFn st fs fn ≠ .error .key) : findFn st' fs fn = findFn st fs fn := by
  unfold findFn at hd ⊢
  split
  · rfl
  · rename_i hk
    cases hl : st.lookup fn with
    | none => simp [hl, hk] at hd
    | some f => rw [h _ _ hl]

theorem fnOp_mono (k : Id) (op : AstOp) (fs : List (Id × AstOp))
    (hd : fnOp st k op fs ≠ .error .key) : fnOp st' k op fs = fnOp st k op fs := by
  unfold fnOp at hd ⊢
  split
  · rename_i hf
    rw [hf] at hd
    exact findFn_mono h fs _ hd
  · rfl

theorem processOp_mono (k : Id) (op : AstOp) (fs : List (Id × AstOp)) (acc : CAcc)
    (hd : processOp st k op fs acc ≠ .error .key) : processOp st' k op fs acc = processOp st k op fs acc := by
  rw [processOp_eq] at hd ⊢
  rw [processOp_eq]
  cases ha : accOp k op acc with
  | error e => rfl
  | ok a => rw [fnOp_mono h k op fs fun he => hd (by rw [ha, he]; rfl)]

theorem traverse_mono (fns : List (Id × AstOp)) (fuel : Nat) (s : List Id) (t x : List (Id × AstOp)) (a : CAcc)
    (hd : Definite (traverse st fns fuel s t x a)) (n : Nat) :
    traverse st' fns (fuel + n) s t x a = traverse st fns fuel s t x a := by
  fun_induction traverse st fns fuel s t x a with
  | case1 => simp only [traverse]
  | case2 => exact absurd rfl (hd _ rfl).2
  | case4 => exact absurd rfl (hd _ rfl).1
  | case3 _ k s t x a hk ih => rw [Nat.succ_add, traverse, if_pos hk, ih hd]
  | case5 _ k s t x a hk op hop e hp =>
    have := processOp_mono h k op fns a (by rw [hp]; exact fun he => (hd _ rfl).1 (Except.error.inj he))
    rw [Nat.succ_add, traverse, if_neg hk, h _ _ hop]
    simp only [this, hp]
  | case6 _ k s t x a hk op hop a' ex hp _ ih =>
    have := processOp_mono h k op fns a (by rw [hp]; exact nofun)
    rw [Nat.succ_add, traverse, if_neg hk, h _ _ hop]
    simp only [this, hp]
    exact ih hd

variable (hf : st.fuel ≤ st'.fuel)
include hf

/-- one traversal as `compileOutputs` and `emitFunctions` start it: with the store's own fuel -/
theorem traverse_mono' (fns : List (Id × AstOp)) (s : List Id) (t x : List (Id × AstOp)) (a : CAcc)
    (hd : Definite (traverse st fns st.fuel s t x a)) :
    traverse st' fns st'.fuel s t x a = traverse st fns st.fuel s t x a := by
  have := traverse_mono h fns st.fuel s t x a hd (st'.fuel - st.fuel)
  rwa [Nat.add_sub_cancel' hf] at this

theorem compileOutputs_mono (outs : List OutDecl) (t fs : List (Id × AstOp)) (mo : List MirOutput) (a : CAcc)
    (hd : Definite (compileOutputs st outs t fs mo a)) :
    compileOutputs st' outs t fs mo a = compileOutputs st outs t fs mo a := by
  fun_induction compileOutputs st outs t fs mo a with
  | case1 => simp only [compileOutputs]
  | case2 o os t fs mo a e htr => simp only [compileOutputs, traverse_mono' h hf _ _ _ _ _ (.of_error htr (hd _ rfl)), htr]
  | case3 => exact absurd rfl (hd _ rfl).1
  | case4 o os t fs mo a t1 ex a1 htr op hop _ ih =>
    simp only [compileOutputs, traverse_mono' h hf _ _ _ _ _ (.of_ok htr), htr, h _ _ hop]
    exact ih hd

omit hf in
theorem argOf_mono (a : Id) (hd : argOf st a ≠ .error .key) : argOf st' a = argOf st a := by
  unfold argOf at hd ⊢
  cases hl : st.lookup a with
  | none => simp [hl] at hd
  | some op => rw [h _ _ hl]

omit hf in
theorem mapM_argOf_mono (as : List Id) (hd : as.mapM (argOf st) ≠ .error .key) :
    as.mapM (argOf st') = as.mapM (argOf st) := by
  induction as with
  | nil => rfl
  | cons a as ih =>
    simp only [List.mapM_cons, bind, Except.bind] at hd ⊢
    cases ha : argOf st a with
    | error e => rw [argOf_mono h a (by rw [ha]; rintro ⟨⟩; simp [ha] at hd), ha]
    | ok v =>
      rw [argOf_mono h a (by rw [ha]; exact nofun), ha]
      simp only [ha] at hd ⊢
      cases hm : as.mapM (argOf st) with
      | error e => rw [ih (by rw [hm]; rintro ⟨⟩; simp [hm] at hd), hm]
      | ok vs => rw [ih (by rw [hm]; exact nofun), hm]

omit hf in
theorem fnToMir_mono (k : Id) (f : AstOp) (t : List (Id × AstOp)) (hd : fnToMir st k f t ≠ .error .key) :
    fnToMir st' k f t = fnToMir st k f t := by
  cases f <;> try rfl
  rename_i n as c ty
  simp only [fnToMir, bind, Except.bind] at hd ⊢
  rw [mapM_argOf_mono h as (by intro he; simp [he] at hd)]

theorem emitFunctions_mono (fuel : Nat) (s fs : List (Id × AstOp)) (out : List MirFn) (a : CAcc)
    (hd : Definite (emitFunctions st fuel s fs out a)) (n : Nat) :
    emitFunctions st' (fuel + n) s fs out a = emitFunctions st fuel s fs out a := by
  fun_induction emitFunctions st fuel s fs out a with
  | case1 => simp only [emitFunctions]
  | case2 => exact absurd rfl (hd _ rfl).2
  | case3 _ k s fs out a nm as c ty e htr =>
    simp only [Nat.succ_add, emitFunctions, traverse_mono' h hf _ _ _ _ _ (.of_error htr (hd _ rfl)), htr]
  | case4 _ k s fs out a nm as c ty t ex a1 htr e hmf =>
    rw [hmf] at hd
    simp only [Nat.succ_add, emitFunctions, traverse_mono' h hf _ _ _ _ _ (.of_ok htr), htr,
      fnToMir_mono h k _ t (by rw [hmf]; exact fun he => (hd _ rfl).1 (Except.error.inj he)), hmf]
  | case5 _ k s fs out a nm as c ty t ex a1 htr mf hmf ih =>
    rw [hmf] at hd ⊢
    simp only [Nat.succ_add, emitFunctions, traverse_mono' h hf _ _ _ _ _ (.of_ok htr), htr,
      fnToMir_mono h k _ t (by rw [hmf]; exact nofun), hmf]
    exact ih hd
  | case6 _ k f s fs out a hf' =>
    cases f with
    | function => exact (hf' _ _ _ _ rfl).elim
    | _ => rw [Nat.succ_add]; rfl

/-- **Store monotonicity of compilation**, for successes and for definite failures.  (`hl` beside `hf`: the function
worklist runs on `st.ops.length + 1` rounds of fuel, the traversals on `St.fuel`.) -/
theorem compile_mono_definite (hl : st.ops.length ≤ st'.ops.length) (outs : List OutDecl)
    (hd : Definite (compile st outs)) : compile st' outs = compile st outs := by
  simp only [compile, bind, Except.bind] at hd ⊢
  cases hco : compileOutputs st outs [] [] [] {} with
  | error e =>
    rw [hco] at hd
    rw [compileOutputs_mono h hf _ _ _ _ _ (.of_error hco (hd _ rfl)), hco]
  | ok r =>
    obtain ⟨t, fs, mo, a⟩ := r
    rw [hco] at hd
    rw [compileOutputs_mono h hf _ _ _ _ _ (.of_ok hco), hco]
    simp only at hd ⊢
    have := emitFunctions_mono h hf (st.ops.length + 1) fs.reverse fs [] a
      (by intro e he; exact hd e (by rw [he])) (st'.ops.length - st.ops.length)
    rw [show st.ops.length + 1 + (st'.ops.length - st.ops.length) = st'.ops.length + 1 by omega] at this
    rw [this]

end

theorem compile_mono {st st' : St} (h : Extends st st') (hf : st.fuel ≤ st'.fuel)
    (hl : st.ops.length ≤ st'.ops.length) (outs : List OutDecl) (m : MirProg)
    (hc : compile st outs = .ok m) : compile st' outs = .ok m :=
  hc ▸ compile_mono_definite h hf hl outs (.of_ok hc)

end NadaVerif.Lemmas
