/-
Typed store — the record a command stores is edge-consistent, kind by kind (no monad here).

`edge_bin`, `edge_zip`, `edge_tupleNew`, …: `edgeOK (tyAtS s) (fnTyS s) op = true` for the record `op` of each kind, from what the
values read agree with the store on (`Agree`) and from the result of the typing rule or of `to_mir()`.  The 28 triples of
`Lemmas/Typed.lean` name the one they use; `Lemmas/TaintSound.lean` reads `edgeOK` the other way (`edgeOK_…`).
-/
import NadaVerif.Lemmas.TypedBase
import NadaVerif.Lemmas.TypedStore

namespace NadaVerif.Lemmas
open NadaVerif NadaVerif.Edge

theorem agree_scalar {s : St} {t : STy} {c : Id} {l : Option LitVal} :
    Agree s (.scalar t (some c) l) ↔ tyAtS s c = some (.scalar t.mirName) := by
  simp only [Agree, Val.child, Option.some.injEq, forall_eq', Val.toMir, Except.ok.injEq, tyAtS, Option.map_eq_some_iff]
  exact ⟨fun ⟨op, h1, h2⟩ => ⟨op, h1, h2.symm⟩, fun ⟨op, h1, h2⟩ => ⟨op, h1, h2.symm⟩⟩

theorem binEdge_names (op : BinOp) : (op.mirName == "Zip") = false ∧ (op.mirName == "InnerProduct") = false := by
  cases op <;> decide

theorem edge_binary {s : St} {name : String} {ta tb : STy} {ty : MTy} {ca cb : Id}
    (hn : (name == "Zip") = false ∧ (name == "InnerProduct") = false) (h : binEdge name ta tb ty = true)
    (ha : tyAtS s ca = some (.scalar ta.mirName)) (hb : tyAtS s cb = some (.scalar tb.mirName)) :
    edgeOK (tyAtS s) (fnTyS s) (.binary name ca cb ty) = true := by
  simp only [edgeOK, ha, hb, hn.1, hn.2, Bool.false_eq_true, if_false, List.any_eq_true]
  exact ⟨ta, mem_scalarOf ta, tb, mem_scalarOf tb, h⟩

theorem edge_bin {s : St} {op : BinOp} {ta tb t : STy} {ca cb : Id} (h : typeBin op ta tb = .ok t false)
    (ha : tyAtS s ca = some (.scalar ta.mirName)) (hb : tyAtS s cb = some (.scalar tb.mirName)) :
    edgeOK (tyAtS s) (fnTyS s) (.binary op.mirName ca cb (.scalar t.mirName)) = true :=
  edge_binary (binEdge_names op) (binEdge_of_typeBin op ta tb t h) ha hb

theorem edge_ifElse {s : St} {tc ta tb t : STy} {cc ca cb : Id} (h : typeIfElse tc ta tb = .ok t false)
    (hc : tyAtS s cc = some (.scalar tc.mirName))
    (ha : tyAtS s ca = some (.scalar ta.mirName)) (hb : tyAtS s cb = some (.scalar tb.mirName)) :
    edgeOK (tyAtS s) (fnTyS s) (.ifElse cc ca cb (.scalar t.mirName)) = true := by
  simp only [edgeOK, hc, ha, hb, List.any_eq_true]
  exact ⟨tc, mem_scalarOf tc, ta, mem_scalarOf ta, tb, mem_scalarOf tb, ifElse_edge tc ta tb t h⟩

theorem edge_random {s : St} {t r : STy} (h : typeRandom t = .ok r false) :
    edgeOK (tyAtS s) (fnTyS s) (.random (.scalar r.mirName)) = true := by
  unfold typeRandom at h
  split at h
  · rename_i hm
    cases h
    simp only [edgeOK, List.any_eq_true]
    exact ⟨t, mem_scalarOf t, by simp [STy.isSec, hm]⟩
  · cases h

theorem edge_invert {s : St} {ta t : STy} {ca : Id} (h : typeInvert ta = .ok t false)
    (ha : tyAtS s ca = some (.scalar ta.mirName)) :
    edgeOK (tyAtS s) (fnTyS s) (.unary "Not" ca (.scalar t.mirName)) = true := by
  simp [edgeOK, ha, invert_edge ta t h]

theorem edge_reveal {s : St} {ta t : STy} {ca : Id} (h : typeReveal ta = .ok t false)
    (ha : tyAtS s ca = some (.scalar ta.mirName)) :
    edgeOK (tyAtS s) (fnTyS s) (.unary "Reveal" ca (.scalar t.mirName)) = true := by
  simp only [edgeOK, ha, String.reduceBEq, Bool.false_eq_true, ↓reduceIte, List.any_eq_true]
  exact ⟨ta, mem_scalarOf ta, by rw [reveal_edge ta t h]; simp⟩

/-- the recorded types of the operands of a `New` record are the types of the values it was built from -/
theorem tysOf_of_all2 (s : St) : ∀ (vs : List Val) (ids : List Id) (ts : List MTy),
    All2 (fun v c => v.child = some c) vs ids → All2 (fun v t => v.toMir = .ok t) vs ts → (∀ v ∈ vs, Agree s v) →
    tysOf (tyAtS s) ids = some ts
  | [], _, _, h1, h2, _ => by rw [All2.nil_left.1 h1, All2.nil_left.1 h2]; rfl
  | v :: vs, _, _, h1, h2, ha => by
    obtain ⟨c, ids, rfl, hc, h1⟩ := All2.cons_left.1 h1
    obtain ⟨t, ts, rfl, ht, h2⟩ := All2.cons_left.1 h2
    simp only [tysOf, agree_tyAt (ha v (by simp)) hc ht, tysOf_of_all2 s vs ids ts h1 h2 fun x hx => ha x (by simp [hx])]

theorem tysOf_isSome (s : St) : ∀ (vs : List Val) (ids : List Id),
    All2 (fun v c => v.child = some c) vs ids → (∀ v ∈ vs, Agree s v) → (tysOf (tyAtS s) ids).isSome = true
  | [], _, h, _ => by rw [All2.nil_left.1 h]; rfl
  | v :: vs, _, h, ha => by
    obtain ⟨c, ids, rfl, hc, h⟩ := All2.cons_left.1 h
    obtain ⟨t, ht⟩ := Option.isSome_iff_exists.1 ((ha v (by simp)).isSome hc)
    obtain ⟨ts, hts⟩ := Option.isSome_iff_exists.1 (tysOf_isSome s vs ids h fun x hx => ha x (by simp [hx]))
    simp only [tysOf, ht, hts, Option.isSome_some]

theorem edge_tupleNew {s : St} {va vb : Val} {ids : List Id} {c : Option Id} {ty : MTy}
    (h : (Val.tuple (.inst va) (.inst vb) c).toMir = .ok ty) (ha : Agree s va) (hb : Agree s vb)
    (hids : All2 (fun v c => v.child = some c) [va, vb] ids) :
    edgeOK (tyAtS s) (fnTyS s) (.new "TupleNew" ids ty) = true := by
  obtain ⟨lt, rt, hl, hr, rfl⟩ := tuple_toMir_inv h
  have hts : All2 (fun v t => v.toMir = .ok t) [va, vb] [lt, rt] := ⟨hl, hr, trivial⟩
  simp [edgeOK, tysOf_of_all2 s _ ids _ hids hts (by simp [ha, hb])]

theorem edge_ntupleNew {s : St} {vs : List Val} {ids : List Id} {c : Option Id} {ty : MTy}
    (h : (Val.ntuple (Vals.ofList vs) c).toMir = .ok ty) (ha : ∀ v ∈ vs, Agree s v)
    (hids : All2 (fun v c => v.child = some c) vs ids) :
    edgeOK (tyAtS s) (fnTyS s) (.new "NTupleNew" ids ty) = true := by
  obtain ⟨ts, hts, rfl⟩ := ntuple_toMir_inv h
  have hm := memberTypes_ofList vs ts hts
  simp [edgeOK, tysOf_of_all2 s vs ids ts.toList hids hm.1 ha, hm.2]

theorem fieldsMatch_of_all2 : ∀ (fs : List (String × Val)) (ts : List (String × MTy)) (ids : List Id) (us : List MTy),
    All2 (fun p q => p.2.toMir = .ok q.2) fs ts → All2 (fun v t => v.toMir = .ok t) (fs.map (·.2)) us →
    fieldsMatch ts us = true
  | [], _, _, _, h1, h2 => by rw [All2.nil_left.1 h1, All2.nil_left.1 h2]; rfl
  | p :: fs, _, ids, _, h1, h2 => by
    obtain ⟨q, ts, rfl, hq, h1⟩ := All2.cons_left.1 h1
    obtain ⟨u, us, rfl, hu, h2⟩ := All2.cons_left.1 h2
    have : q.2 = u := by rw [hq] at hu; cases hu; rfl
    simp [fieldsMatch, this, fieldsMatch_of_all2 fs ts ids us h1 h2]

theorem edge_objectNew {s : St} {fs : List (String × Val)} {ids : List Id} {c : Option Id} {ty : MTy}
    (h : (Val.object (VFields.ofList fs) c).toMir = .ok ty) (ha : ∀ v ∈ fs.map (·.2), Agree s v)
    (hids : All2 (fun v c => v.child = some c) (fs.map (·.2)) ids) :
    edgeOK (tyAtS s) (fnTyS s) (.new "ObjectNew" ids ty) = true := by
  obtain ⟨ts, hts, rfl⟩ := object_toMir_inv h
  have hm := fieldTypes_ofList fs ts hts
  have hu : All2 (fun v t => v.toMir = .ok t) (fs.map (·.2)) (ts.toList.map (·.2)) := All2.map _ _ hm
  simp [edgeOK, tysOf_of_all2 s _ ids _ hids hu ha, fieldsMatch_of_all2 fs ts.toList ids _ hm hu]

theorem edge_arrayNew {s : St} {first : Val} {rest : List Val} {ids : List Id} {tys : List MTy} {fty ty : MTy}
    {c : Option Id}
    (hf : first.toMir = .ok fty) (htys : All2 (fun v t => v.toMir = .ok t) (first :: rest) tys)
    (hall : tys.all (· = fty) = true)
    (h : (Val.array (.inst first) (some ((first :: rest).length : Nat)) c).toMir = .ok ty)
    (ha : ∀ v ∈ first :: rest, Agree s v)
    (hids : All2 (fun v c => v.child = some c) (first :: rest) ids) :
    edgeOK (tyAtS s) (fnTyS s) (.new "ArrayNew" ids ty) = true := by
  have hts := tysOf_of_all2 s (first :: rest) ids tys hids htys ha
  have hlen := htys.length
  obtain ⟨t0, ts, rfl, ht0, _⟩ := All2.cons_left.1 htys
  obtain ⟨inner, hi, rfl⟩ := array_toMir_inv h
  obtain rfl : t0 = fty := by rw [hf] at ht0; cases ht0; rfl
  obtain rfl : inner = t0 := by rw [Elem.innerType, hf] at hi; cases hi; rfl
  have hne : ((rest.length : Int) + 1 = 0) = False := by simp; omega
  simp only [List.length_cons] at hlen
  simp only [List.all_eq_true, decide_eq_true_eq, List.mem_cons, forall_eq_or_imp] at hall
  simp [edgeOK, hts, sizeOfArray, hne]
  exact ⟨hall.2, by omega⟩

theorem agree_array {s : St} {e : Elem} {n : Option Int} {c : Id} (h : Agree s (.array e n (some c))) :
    ∃ inner, e.innerType = .ok inner ∧ tyAtS s c = some (.array inner (sizeOfArray n)) := by
  obtain ⟨op, h1, h2⟩ := h c rfl
  obtain ⟨inner, hi, hty⟩ := array_toMir_inv h2
  exact ⟨inner, hi, by simp [tyAtS, h1, hty]⟩

theorem edge_zip {s : St} {ea eb : Elem} {na : Option Int} {ca cb : Id} {c : Option Id} {ty : MTy}
    (h : (Val.array (.inst (.tuple ea eb none)) na c).toMir = .ok ty)
    (ha : Agree s (.array ea na (some ca))) (hb : Agree s (.array eb na (some cb))) :
    edgeOK (tyAtS s) (fnTyS s) (.binary "Zip" ca cb ty) = true := by
  obtain ⟨ia, hia, hta⟩ := agree_array ha
  obtain ⟨ib, hib, htb⟩ := agree_array hb
  obtain ⟨inner, hi, rfl⟩ := array_toMir_inv h
  obtain ⟨lt, rt, hl, hr, rfl⟩ := tuple_toMir_inv (by simpa only [Elem.innerType] using hi)
  rw [sideType_eq_innerType ea lt hl] at hia; cases hia
  rw [sideType_eq_innerType eb rt hr] at hib; cases hib
  simp [edgeOK, hta, htb]

theorem size_norm_eq (n : Option Int) : Size.norm (sizeOfArrayType n) = Size.norm (sizeOfArray n) := by
  cases n with
  | none => rfl
  | some v => by_cases h : v = 0 <;> simp [sizeOfArrayType, sizeOfArray, Size.norm, h]

theorem edge_unzip {s : St} {l r : Elem} {x : Option Id} {n : Option Int} {ca : Id} {c : Option Id} {ty : MTy}
    (h : (Val.tuple (.arrayType l n) (.arrayType r n) c).toMir = .ok ty)
    (ha : Agree s (.array (.inst (.tuple l r x)) n (some ca))) :
    edgeOK (tyAtS s) (fnTyS s) (.unary "Unzip" ca ty) = true := by
  obtain ⟨ia, hia, hta⟩ := agree_array ha
  obtain ⟨lt, rt, hl, hr, rfl⟩ := tuple_toMir_inv h
  obtain ⟨li, hli, rfl⟩ := arrayType_sideType_inv hl
  obtain ⟨ri, hri, rfl⟩ := arrayType_sideType_inv hr
  obtain ⟨lt', rt', hl', hr', rfl⟩ := tuple_toMir_inv (by simpa only [Elem.innerType] using hia)
  rw [asInstance_eq_sideType l li hli] at hl'; cases hl'
  rw [asInstance_eq_sideType r ri hri] at hr'; cases hr'
  simp [edgeOK, hta, size_norm_eq]

theorem edge_innerProduct {s : St} {ea eb : Elem} {na nb : Option Int} {ca cb : Id} {tl tr : STy}
    (hl : ea.scalarClass = some tl) (hr : eb.scalarClass = some tr) (hb : tl.base = tr.base)
    (hm : Mode.max tl.mode tr.mode ≠ .const)
    (ha : Agree s (.array ea na (some ca))) (hb' : Agree s (.array eb nb (some cb))) :
    edgeOK (tyAtS s) (fnTyS s) (.binary "InnerProduct" ca cb (.scalar (STy.mk (Mode.max tl.mode tr.mode) tl.base).mirName)) = true := by
  obtain ⟨ia, hia, hta⟩ := agree_array ha
  obtain ⟨ib, hib, htb⟩ := agree_array hb'
  rw [scalarClass_innerType hl] at hia; cases hia
  rw [scalarClass_innerType hr] at hib; cases hib
  simp only [edgeOK, hta, htb, String.reduceBEq, Bool.false_eq_true, ↓reduceIte, List.any_eq_true]
  refine ⟨tl, mem_scalarOf tl, tr, mem_scalarOf tr, ?_⟩
  -- the result is no literal, so MIR shows its mode as the erased secrecy
  simp [hb, mirName_emode _ hm, Mode.max_sec, STy.isSec]

theorem edge_map {s : St} {e : Elem} {n : Option Int} {ca fid : Id} {ret : STy} {c : Option Id} {ty : MTy}
    (h : (Val.array (.cls ret) n c).toMir = .ok ty)
    (ha : Agree s (.array e n (some ca))) (hf : fnTyS s fid = some (.scalar ret.mirName)) :
    edgeOK (tyAtS s) (fnTyS s) (.map ca fid ty) = true := by
  obtain ⟨ia, hia, hta⟩ := agree_array ha
  obtain ⟨inner, hi, rfl⟩ := array_toMir_inv h
  cases hi
  simp [edgeOK, hta, hf]

theorem edge_ntupleAcc {s : St} {vs : Vals} {src : Id} {j : Int} {m : Val} {ty : MTy}
    (ha : Agree s (.ntuple vs (some src))) (hj : 0 ≤ j) (hm : vs.toList[j.toNat]? = some m) (hty : m.toMir = .ok ty) :
    edgeOK (tyAtS s) (fnTyS s) (.ntupleAcc j src ty) = true := by
  obtain ⟨op, h1, h2⟩ := ha src rfl
  obtain ⟨ts, hts, h2⟩ := ntuple_toMir_inv h2
  simp [edgeOK, tyAtS, h1, h2, hj, memberTypes_get vs ts j.toNat m ty hts hm hty]

theorem edge_objectAcc {s : St} {fs : VFields} {src : Id} {key : String} {p : String × Val} {ty : MTy}
    (ha : Agree s (.object fs (some src))) (hm : fs.toList.find? (·.1 == key) = some p) (hty : p.2.toMir = .ok ty) :
    edgeOK (tyAtS s) (fnTyS s) (.objectAcc key src ty) = true := by
  obtain ⟨op, h1, h2⟩ := ha src rfl
  obtain ⟨ts, hts, h2⟩ := object_toMir_inv h2
  simp [edgeOK, tyAtS, h1, h2, fieldTypes_find fs ts key p ty hts hm hty]

end NadaVerif.Lemmas
