/-
Typed store — the machine invariant and the 28 commands.

`J m`: the invariant of the machine (it is in order, `MachOK`; the store is edge-consistent; the registers are typed);
`CleanStep m c`: the hypothesis on one step (`Lemmas/TypedRun.lean` lifts it to runs).

One Hoare triple per command (`tx_*`, collected in `exec_typed`), generated with `mvcgen` from the code of `exec`: run
from a machine that satisfies `J`, a clean command leaves a machine that satisfies `J` (`PostT`); rejected, it has stored
under fresh ids only (`Step`).  What is structural — mentioned ids are stored, ids are drawn before they are held, the
machine left is in order and has kept the records — is `step_inv`'s (`Lemmas/TraceInv.lean`) and is assumed here, not shown
again.  That the record a command stores is edge-consistent is shown kind by kind in `Lemmas/TypedEdges.lean` (`edge_*`).
-/
import NadaVerif.Lemmas.TypedEdges
import NadaVerif.Lemmas.TraceInv

namespace NadaVerif.Lemmas
open Std.Do NadaVerif NadaVerif.Spec NadaVerif.Edge

set_option mvcgen.warning false

/-- the registers the command reads hold values that agree with the store, members included -/
def ReadsAgree (regs : List RVal) (s0 : St) (c : Cmd) : Prop :=
  ∀ r ∈ c.reads, ∀ v, regs[r]? = some (.val v) → ∀ w ∈ v.live, Agree s0 w

/-- The hypothesis on one step: what the command reads agrees with the store, and a command that re-types an input record
(`T(Input)` on a wrapped input, `Array(value, size)`) does so while no stored record mentions it — the two ways in which one
`Input` object comes to carry two types (finding F-C03-2). -/
def CleanStep (m : Mach) (c : Cmd) : Prop :=
  ReadsAgree m.regs m.st c ∧
  (match c with
   | .wrap _ r => ∀ k n p d, m.regs[r]? = some (.input k n p d) → Unref m.st k
   | .arrayOf r _ => ∀ v c', m.regs[r]? = some (.val v) → v.child = some c' → Unref m.st c'
   | _ => True)

/-- a register bound by a command: typed in the new state, and if it is an `Input` object its id was drawn by the command -/
def RegNew (s0 s : St) (x : RVal) : Prop := RegTyped s x ∧ ∀ k n p d, x = .input k n p d → s0.counter < k

theorem regNew_step {s0 s1 s : St} {x : RVal} (h : RegNew s0 s1 x) (hv : ∃ v, x = .val v) (hst : Step s1 s) (hS1 : StoreInv s1) :
    RegNew s0 s x := by
  obtain ⟨v, rfl⟩ := hv
  exact ⟨fun w hw => (h.1 w hw).persist ((hst.2.2.at hS1.1).persist hS1.1), nofun⟩

/-- The typed-store invariant of the machine, on top of the structural one: the store is edge-consistent and the
registers are typed. -/
structure J (m : Mach) : Prop where
  ok : MachOK m
  edges : EdgesOK m.st
  regs : ∀ r ∈ m.regs, RegTyped m.st r

theorem J.store {m : Mach} (h : J m) : StoreInv m.st := ⟨h.ok.idsLe, h.edges⟩

/-- Success of a command, the machine it leaves being in order and the records stored before kept (which is `step_inv`'s
to show): that machine satisfies the invariant again. -/
def PostT (m : Mach) (s : St) (r : List RVal × List Frame) : Prop :=
  MachOK ⟨s, m.regs ++ r.1, r.2⟩ → Persist m.st s → J ⟨s, m.regs ++ r.1, r.2⟩

section
variable {m : Mach} (hJ : J m)
include hJ

/-- The old registers stay typed because the records are kept, an `Input` object because the machine left is in order;
the store and the registers bound are the command's business. -/
theorem postT_of {s : St} {vals : List RVal} {frames' : List Frame} (hS : StoreInv s) (hv : ∀ x ∈ vals, RegTyped s x) :
    PostT m s (vals, frames') := by
  refine fun hok' hp => ⟨hok', hS.2, fun r hr => ?_⟩
  rcases List.mem_append.1 hr with hr' | hr'
  · have ht := hJ.regs r hr'
    cases r with
    | val v => exact fun w hw => (ht w hw).persist hp
    | fn fid ret ns => obtain ⟨n, a, c, hl⟩ := ht; exact ⟨n, a, c, (hp _ _ hl).1 rfl⟩
    | input k n p d =>
      cases hl : s.lookup k with
      | none => exact .inl hl
      | some op => exact .inr ⟨op, hl, hok'.inputs k n p d hr op hl⟩
    | _ => trivial
  · exact hv r hr'

theorem postT_val {s : St} {v : Val} (hst : Step m.st s) (hv : RegTyped s (.val v)) : PostT m s ([.val v], m.frames) :=
  postT_of hJ hst.inv fun _ hx => List.mem_singleton.1 hx ▸ hv

/-- The common shape: an id was drawn, one record stored under it, a value pointing at it bound.  That the ids the
record mentions are stored is read off the store of the machine left.  `hlive`, by default: a value without members is
all its `live` list holds. -/
theorem postT_fresh {s : St} {op : AstOp} {v : Val}
    (hput : s.counter = m.st.counter + 1 ∧ s.ops = (m.st.counter + 1, op) :: m.st.ops)
    (he : edgeOK (tyAtS m.st) (fnTyS m.st) op = true)
    (hv : v.child = some (m.st.counter + 1)) (hty : v.toMir = .ok op.ty)
    (hlive : ∀ w ∈ v.live, w = v ∨ Agree m.st w := by simp [Val.live]) : PostT m s ([.val v], m.frames) := by
  intro hok'
  have hsto : StoL s.ops := hok'.sto
  rw [hput.2] at hsto
  have hp := post_put_fresh hput hJ.store hJ.ok.sto hsto.1 he hv hty
  refine postT_val hJ hp.1 (fun w hw => ?_) hok'
  rcases hlive w hw with rfl | h
  · exact hp.2.weak
  · exact (agree_step hp.1 hJ.store h).weak

end

theorem regTyped_of_agree {s : St} {v : Val} (h : Agree s v) (hl : v.live = [v]) : RegTyped s (.val v) := by
  intro w hw; rw [hl] at hw; rw [List.mem_singleton.1 hw]; exact h.weak

theorem regTyped_scalar {s : St} {t : STy} {c : Id} {l : Option LitVal} (h : tyAtS s c = some (.scalar t.mirName)) :
    RegTyped s (.val (.scalar t (some c) l)) :=
  regTyped_of_agree (agree_scalar.2 h) rfl

theorem step_refl_iff {s : St} : Step s s ↔ StoreInv s ∧ StoL s.ops :=
  ⟨fun h => ⟨h.inv, h.sto⟩, fun h => Step.refl s h.1 h.2⟩

attribute [vc_typed] step_refl_iff step_same_ops regTyped_scalar Nat.le_add_right Cmd.reads Val.live Val.withChild AstOp.ty
  mentions_binary mentions_unary mentions_ifElse mentions_random mentions_ntupleAcc mentions_objectAcc List.mem_cons List.not_mem_nil
  Option.isSome_some Val.scalar.injEq Option.some.injEq forall_eq forall_eq_or_imp true_or or_true true_imp_iff false_imp_iff implies_true and_true true_and Classical.not_not Bool.not_eq_true' Bool.not_eq_false Bool.and_eq_true SPred.down_pure SPred.entails_nil

/-- Normal form of the verification conditions: `vc_typed` is applied; what is then an assumption is closed — the paths
on which a command fails before it stores anything, above all. -/
macro "vc_typed" : tactic => `(tactic| simp_all +zetaDelta only [vc_typed])

/-! The helpers are run in a state `s0` that is in order (`h0 : Step s0 s0`).  `mvcgen -trivial -leave`: as in `exec_case`
(`Lemmas/TraceInv.lean`); the raw conditions `⊢ₛ ⌜P⌝` become `True → P` by `SPred.entails_nil`, `SPred.down_pure`. -/

theorem mkLiteral_typed (base : Base) (v : LitVal) (s0 : St) (h0 : Step s0 s0) :
    ⦃fun s => ⌜s = s0⌝⦄ mkLiteral base v
    ⦃post⟨fun r s => ⌜Step s0 s ∧ r = .scalar ⟨.const, base⟩ (some (s0.counter + 1)) (some v) ∧
                        tyAtS s (s0.counter + 1) = some (.scalar (STy.mk .const base).mirName)⌝,
          fun _ _ => ⌜False⌝⟩⦄ := by
  mvcgen -trivial -leave [mkLiteral, alloc_spec, litIndex_spec, put_spec]
  simp_all only [SPred.down_pure, SPred.entails_nil, true_imp_iff]
  have := post_put_fresh (v := .scalar ⟨.const, base⟩ (some (s0.counter + 1)) (some v)) ‹_› h0.inv h0.sto
    (by simp [mentions_literal]) rfl rfl rfl
  exact ⟨this.1, rfl, agree_scalar.1 this.2⟩

theorem scalarResult_typed (out : Out) (foldE : Option (Py.PyExpr × Base)) (l r : Option LitVal) (mkOp : MTy → AstOp)
    (s0 : St) (h0 : Step s0 s0)
    (hmk : ∀ ty, (mkOp ty).ty = ty ∧ ∀ c ∈ (mkOp ty).mentions, (tyAtS s0 c).isSome = true)
    (hedge : ∀ t, out = .ok t false → edgeOK (tyAtS s0) (fnTyS s0) (mkOp (.scalar t.mirName)) = true) :
    ⦃fun s => ⌜s = s0⌝⦄ scalarResult out foldE l r mkOp
    ⦃post⟨fun v s => ⌜Step s0 s ∧ RegTyped s (.val v)⌝, fun _ s => ⌜Step s0 s⌝⟩⦄ := by
  mvcgen -trivial -leave [scalarResult, mkLiteral_typed, alloc_spec, put_spec]
  all_goals subst_vars
  all_goals simp_all only [regTyped_scalar, implies_true, and_self, SPred.down_pure, SPred.entails_nil, true_imp_iff]
  have := post_put_fresh (v := .scalar _ _ none) ‹_› h0.inv h0.sto (fun c hc => tyAt_has ((hmk _).2 c hc)) (hedge _ rfl) rfl
    (congrArg Except.ok (hmk _).1.symm)
  exact ⟨this.1, regTyped_of_agree this.2 rfl⟩

/-- `_generate_accessor` after the caller drew the id `k` (state `sa`; `sb` is the state before the draw) -/
theorem genAccessor_typed (member : Val) (k : Id) (mk : MTy → AstOp) (sb sa : St)
    (hal : k = sb.counter + 1 ∧ sa.counter = sb.counter + 1 ∧ sa.ops = sb.ops) (h0 : Step sb sb)
    (hm : ∀ ty, (mk ty).ty = ty ∧ ∀ c ∈ (mk ty).mentions, (tyAtS sb c).isSome = true)
    (hedge : ∀ ty, member.toMir = .ok ty → edgeOK (tyAtS sb) (fnTyS sb) (mk ty) = true)
    (hw : ∀ w ∈ member.live, Agree sb w) :
    ⦃fun s => ⌜s = sa⌝⦄ genAccessor member k mk
    ⦃post⟨fun v s => ⌜Step sb s ∧ RegTyped s (.val v)⌝, fun _ s => ⌜Step sb s⌝⟩⦄ := by
  obtain ⟨rfl, hal⟩ := hal
  have hst : Step sb sa := step_same_ops hal.2 (by omega) h0.inv h0.sto
  have hhas (ty) : ∀ c ∈ (mk ty).mentions, Has sb.ops c := fun c hc => tyAt_has ((hm ty).2 c hc)
  mvcgen -trivial -leave [genAccessor, put_spec, liftE_spec']
  all_goals simp_all only [implies_true, true_and, SPred.down_pure, SPred.entails_nil, true_imp_iff]
  · exact fun w hw' => (agree_step hst h0.inv (hw w hw')).weak
  · have := post_put_fresh (v := .scalar _ (some (sb.counter + 1)) none) ‹_ ∧ _ = _ :: _› h0.inv h0.sto (hhas _) (hedge _ rfl) rfl
      (congrArg Except.ok (hm _).1.symm)
    exact ⟨this.1, regTyped_of_agree this.2 rfl⟩
  · -- a member that is no scalar is handed out with the drawn id for its own (`h_4`: its type)
    expose_names
    have := post_put_fresh ‹_ ∧ _ = _ :: _› h0.inv h0.sto (hhas _) (hedge _ (toMir_withChild v _ ▸ h_4.2)) (child_withChild v _)
      (by rw [(hm _).1]; exact h_4.2)
    refine ⟨this.1, fun w hw' => ?_⟩
    rcases live_withChild v _ w hw' with rfl | hw'
    · exact this.2.weak
    · exact (agree_step this.1 h0.inv (hw w hw')).weak

theorem template_typed (ann : Ann) (s0 : St) (h0 : Step s0 s0) :
    ⦃fun s => ⌜s = s0⌝⦄ template ann
    ⦃post⟨fun v s => ⌜Step s0 s ∧ ∀ k, (v.withChild k).live = [v.withChild k]⌝, fun _ s => ⌜Step s0 s⌝⟩⦄ := by
  induction ann generalizing s0 with
  | scalar t => mvcgen -trivial -leave [template, mkLiteral_typed] <;> vc_typed
  | array inner ih => mvcgen -trivial -leave [template, ih] <;> vc_typed
  | bareArray => mvcgen -trivial -leave [template]; vc_typed

theorem bindParams_typed (fid : Id) (params : List (String × Ann)) (s0 : St) (h0 : Step s0 s0) :
    ⦃fun s => ⌜s = s0⌝⦄ bindParams fid params
    ⦃post⟨fun r s => ⌜Step s0 s ∧ ∀ x ∈ r.2, RegTyped s x⌝, fun _ s => ⌜Step s0 s⌝⟩⦄ := by
  induction params generalizing s0 with
  | nil => mvcgen -trivial -leave [bindParams]; vc_typed
  | cons p ps ih =>
    obtain ⟨pname, ann⟩ := p
    mvcgen -trivial -leave [bindParams, template_typed, alloc_spec, put_spec, liftE_spec', ih]
    all_goals simp_all only [implies_true, SPred.down_pure, SPred.entails_nil, true_imp_iff]
    all_goals expose_names
    -- h_1: the template; h_2: the id drawn; h_3: the template's type; h_4: its record stored; h_5: the remaining parameters
    all_goals try
      have hp := post_put_fresh (v := r.withChild (s_1.counter + 1)) h_4 h_1.1.inv h_1.1.sto
        (by simp [mentions_argRef]) rfl (child_withChild _ _) (by rw [toMir_withChild]; exact h_3.2)
    · exact hp.1.right
    · refine ⟨h_1.1.trans (hp.1.trans h_5.1), fun x hx => ?_⟩
      rcases List.mem_cons.1 hx with rfl | hx
      · exact regTyped_of_agree (agree_step h_5.1 hp.1.inv hp.2) (h_1.2 _)
      · exact h_5.2 x hx
    · exact fun h => h_1.1.trans (hp.1.trans h)
    · rintro rfl; exact h_1.1.trans (step_same_ops h_2.2.2 (by omega) h_1.1.inv h_1.1.sto)

section
variable {regs : List RVal} {s0 : St} {c : Cmd} (hA : ReadsAgree regs s0 c)
include hA

theorem getVal_reads (r : Reg) (hr : r ∈ c.reads) (s1 : St) :
    Reads (getVal regs r) s1 fun v => regs[r]? = some (.val v) ∧ ∀ w ∈ v.live, Agree s0 w :=
  reads_mono (getVal_spec' regs r s1) fun v h => ⟨h, hA r hr v h⟩

theorem getScalar_reads (r : Reg) (hr : r ∈ c.reads) (s1 : St) :
    Reads (getScalar regs r) s1 fun x => tyAtS s0 x.2.1 = some (.scalar x.1.mirName) :=
  reads_mono (getScalar_spec regs r s1) fun _ h => agree_scalar.1 (hA r hr _ h _ (self_mem_live _))

theorem mapM_getVal_reads (xs : List Reg) (hx : ∀ r ∈ xs, r ∈ c.reads) (s1 : St) :
    Reads (xs.mapM (getVal regs)) s1 fun vs => ∀ v ∈ vs, ∀ w ∈ v.live, Agree s0 w :=
  reads_mono (mapM_getVal_exact regs xs s1) fun _ h v hv => let ⟨r, hr, hrv⟩ := All2.right h v hv; hA r (hx r hr) v hrv

theorem mapM_fields_reads (fs : List (String × Reg)) (hx : ∀ p ∈ fs, p.2 ∈ c.reads) (s1 : St) :
    Reads (fs.mapM (fun (p : String × Reg) => do pure (p.1, ← getVal regs p.2))) s1
      fun vs => ∀ q ∈ vs, ∀ w ∈ q.2.live, Agree s0 w :=
  reads_mono (mapM_fields_exact regs fs s1) fun _ h q hq => let ⟨p, hp, hpq⟩ := All2.right h q hq; hA p.2 (hx p hp) q.2 hpq.2

end

section
variable (m : Mach) (hJ : J m)
include hJ

theorem fnReg_ty {f : Nat} {fid : Id} {ret : STy} {ns : List String} (h : m.regs[f]? = some (.fn fid ret ns)) :
    fnTyS m.st fid = some (.scalar ret.mirName) := by
  obtain ⟨n, a, c, hl⟩ := hJ.regs _ (List.mem_of_getElem? h)
  simp [fnTyS, hl]

abbrev GoalT (c : Cmd) : Prop :=
  CleanStep m c →
  ⦃fun s => ⌜s = m.st⌝⦄ exec m.regs m.frames c ⦃post⟨fun r s => ⌜PostT m s r⌝, fun _ s => ⌜Step m.st s⌝⟩⦄

/-- Symbolic execution of one command, the helpers it calls described by the specifications `ts`, followed by
`vc_typed` with what `J` says of the store before.  What is left is the path on which the command stores, and the edge
of the record a helper stores (`hedge`).  `using r`: the command's reads go through the reader `r`, whose specification under the
hypothesis on the step (`hC`) is added to `ts`.  The names `hC`, `hJ` are the caller's (no hygiene).  (`subst_vars`
before `simp_all`: it loses a hypothesis that it rewrites in two rounds.) -/
syntax "tx_case" "[" Lean.Parser.Tactic.simpLemma,* "]" (" using " ident)? : tactic

set_option hygiene false in
macro_rules
  | `(tactic| tx_case [$ts,*]) => `(tactic| (
    intro hC
    mvcgen -trivial -leave [exec, $ts,*]
    all_goals subst_vars
    all_goals try simp_all +zetaDelta only [vc_typed, hJ.store, hJ.ok.sto, postT_val hJ]))
  | `(tactic| tx_case [$ts,*] using $r) => `(tactic| (
    intro hC
    have hR := $r hC.1
    mvcgen -trivial -leave [exec, hR, $ts,*]
    all_goals clear hR
    all_goals subst_vars
    all_goals try simp_all +zetaDelta only [vc_typed, hJ.store, hJ.ok.sto, postT_val hJ]))

theorem tx_nop : GoalT m .nop := by tx_case []
theorem tx_party (nm) : GoalT m (.party nm) := by
  tx_case []
  exact postT_of hJ hJ.store (by simp [RegTyped])
theorem tx_inputObj (a b p) : GoalT m (.inputObj a b p) := by
  tx_case [alloc_spec]
  expose_names   -- h_1: the id drawn
  refine postT_of hJ (storeInv_congr h_1.2.2 (by omega) hJ.store) fun x hx => ?_
  rw [List.mem_singleton.1 hx]
  exact .inl ((lookup_eq_of_ops _ _ h_1.2.2 _).trans (hJ.ok.idsLe.none_above (Nat.lt_succ_self _)))
theorem tx_lit (b v) : GoalT m (.lit b v) := by
  tx_case [mkLiteral_typed]
/-! In the scalar commands `h`, `h_1`, `h_2` are what the reads returned, the last read first. -/

theorem tx_bin (op a b) : GoalT m (.bin op a b) := by
  tx_case [scalarResult_typed] using getScalar_reads
  expose_names; exact fun t ht => edge_bin ht h_1.2 h.2
theorem tx_reveal (a) : GoalT m (.reveal a) := by
  tx_case [scalarResult_typed] using getScalar_reads
  expose_names; exact fun t ht => edge_reveal ht h.2
theorem tx_random (t) : GoalT m (.random t) := by
  tx_case [scalarResult_typed]
  exact fun _ => edge_random
theorem tx_truncPr (a b) : GoalT m (.truncPr a b) := by
  tx_case [scalarResult_typed] using getScalar_reads
  expose_names; exact fun t ht => edge_binary (by decide) (binEdge_of_truncPr _ _ t ht) h_1.2 h.2
theorem tx_publicEquals (a b) : GoalT m (.publicEquals a b) := by
  tx_case [scalarResult_typed] using getScalar_reads
  expose_names; exact fun t ht => edge_binary (by decide) (binEdge_of_publicEquals _ _ t ht) h_1.2 h.2
theorem tx_ifElse (c a b) : GoalT m (.ifElse c a b) := by
  tx_case [scalarResult_typed] using getScalar_reads
  expose_names; exact fun t ht => edge_ifElse ht h_2.2 h.2 h_1.2
theorem tx_invert (a) : GoalT m (.invert a) := by
  tx_case [scalarResult_typed] using getScalar_reads
  expose_names; exact fun t ht => edge_invert ht h.2

theorem tx_zip (a b) : GoalT m (.zip a b) := by
  tx_case [alloc_spec, liftE_spec', put_spec] using getVal_reads
  expose_names   -- h_1, h_5: the arrays read; h_3: the type of the result; h_4: its record stored
  exact postT_fresh hJ h_4 (edge_zip h_3.2 h_5.2.2 h_1.2.2) rfl h_3.2
theorem tx_unzip (a) : GoalT m (.unzip a) := by
  tx_case [alloc_spec, liftE_spec', put_spec] using getVal_reads
  expose_names   -- h_3: the array read; h_1: the type of the result; h_2: its record stored
  exact postT_fresh hJ h_2 (edge_unzip h_1.2 h_3.2.2) rfl h_1.2
theorem tx_innerProduct (a b) : GoalT m (.innerProduct a b) := by
  tx_case [liftE_spec', alloc_spec, put_spec] using getVal_reads
  expose_names   -- h_1, h_11: the arrays read; h_5, h_4: their element classes; h_6: equal bases; h_7: not both literals;
                 -- h_10: the record stored
  exact postT_fresh hJ h_10 (h_6 ▸ edge_innerProduct h_5 h_4 h_6 h_7 h_11.2.2 h_1.2.2) rfl rfl
theorem tx_map (a f) : GoalT m (.map a f) := by
  tx_case [alloc_spec, liftE_spec', put_spec] using getVal_reads
  expose_names   -- h: the function; h_4: the array read; h_2: the type of the result; h_3: its record stored
  exact postT_fresh hJ h_3 (edge_map h_2.2 h_4.2.2 (fnReg_ty m hJ h)) rfl h_2.2
theorem tx_reduce (a f i) : GoalT m (.reduce a f i) := by
  tx_case [childOf_spec', alloc_spec, put_spec] using getVal_reads
  expose_names   -- h: the function; h_5, h_1: the array and the initial value read; h_2: its id; h_4: the record stored
  exact postT_fresh hJ h_4
    (by simp [edgeOK, h_5.2.2.isSome rfl, (h_1.2.2 vi (self_mem_live vi)).isSome h_2.2, fnReg_ty m hJ h]) rfl rfl

theorem tx_tupleNew (a b) : GoalT m (.tupleNew a b) := by
  tx_case [alloc_spec, liftE_spec', childIds_exact, put_spec] using getVal_reads
  expose_names   -- h_5, h: the values read; h_2: the type of the result; h_3: the ids; h_4: the record stored
  exact postT_fresh hJ h_4 (edge_tupleNew h_2.2 (h_5.2.2 _ (self_mem_live _)) (h.2.2 _ (self_mem_live _)) h_3.2) rfl h_2.2
theorem tx_ntupleNew (xs) : GoalT m (.ntupleNew xs) := by
  tx_case [alloc_spec, liftE_spec', childIds_exact, put_spec] using mapM_getVal_reads
  expose_names   -- h_4: the values read; h_1: the type of the result; h_2: the ids; h_3: the record stored
  refine postT_fresh hJ h_3 (edge_ntupleNew h_1.2 (fun v hv => h_4.2 v hv v (self_mem_live v)) h_2.2) rfl h_1.2 fun w hw => ?_
  simp only [Val.live, List.mem_cons, live_ofList] at hw
  rcases hw with rfl | ⟨v, hv, hw⟩
  · exact .inl rfl
  · exact .inr (h_4.2 v hv w hw)
theorem tx_objectNew (fs) : GoalT m (.objectNew fs) := by
  tx_case [alloc_spec, liftE_spec', childIds_exact, put_spec] using mapM_fields_reads
  all_goals expose_names
  · exact fun p hp => List.mem_map_of_mem hp
  -- h_5: the values read; h_2: the type of the result; h_3: the ids; h_4: the record stored
  · refine postT_fresh hJ h_4 (edge_objectNew h_2.2 (fun v hv => ?_) h_3.2) rfl h_2.2 fun w hw => ?_
    · obtain ⟨q, hq, rfl⟩ := List.mem_map.1 hv
      exact h_5.2 q hq _ (self_mem_live _)
    · simp only [Val.live, List.mem_cons, live_fieldsOfList] at hw
      rcases hw with rfl | ⟨q, hq, hw⟩
      · exact .inl rfl
      · exact .inr (h_5.2 q hq w hw)
theorem tx_arrayNew (xs) : GoalT m (.arrayNew xs) := by
  tx_case [liftE_spec', mapM_toMir_exact, alloc_spec, childIds_exact, put_spec] using mapM_getVal_reads
  expose_names
  -- h_7: the values read; h, h_2: their types; h_1: the guard; h_4: the type of the result; h_5: the ids; h_6: the record stored
  refine postT_fresh hJ h_6 (edge_arrayNew h.2 h_2.2 h_1.2 h_4.2 (fun v hv => ?_) h_5.2) rfl h_4.2
  rcases List.mem_cons.1 hv with rfl | hv
  · exact h_7.2.1 _ (self_mem_live _)
  · exact h_7.2.2 v hv v (self_mem_live v)
theorem tx_call (f args kws) : GoalT m (.call f args kws) := by
  tx_case [alloc_spec, childIds_exact, put_spec] using mapM_getVal_reads
  all_goals expose_names
  · intro r hr
    rcases List.mem_append.1 hr with h' | h'
    · exact List.mem_append.2 (.inl h')
    · -- a keyword argument's register is the register of one of the keywords
      obtain ⟨n, -, hn⟩ := mem_of_mapM_some h_2 r h'
      obtain ⟨p, hp, rfl⟩ := Option.map_eq_some_iff.1 hn
      exact List.mem_append.2 (.inr (List.mem_map_of_mem (List.mem_of_find?_eq_some hp)))
  -- h: the function; h_7: the values read; h_5: their ids; h_6: the record stored
  · have hts := tysOf_isSome m.st r r_2 h_5.2 fun v hv => h_7.2 v hv v (self_mem_live v)
    exact postT_fresh hJ h_6 (by simp [edgeOK, hts, fnReg_ty m hJ h]) rfl rfl
theorem tx_ntupleGet (t i) : GoalT m (.ntupleGet t i) := by
  tx_case [alloc_spec, genAccessor_typed] using getVal_reads
  all_goals expose_names   -- h_3: the tuple read; h_1: the member taken
  all_goals obtain ⟨-, -, hsrc, hlive⟩ := h_3
  · exact fun _ => hsrc.isSome rfl
  · exact fun ty hty => edge_ntupleAcc hsrc (by omega) h_1 hty
  · exact fun w hw => hlive w (live_vals_mem vs m_1 (List.mem_of_getElem? h_1) w hw)
theorem tx_objectGet (o key) : GoalT m (.objectGet o key) := by
  tx_case [alloc_spec, genAccessor_typed] using getVal_reads
  all_goals expose_names   -- h_3: the object read; h_1: the member taken
  all_goals obtain ⟨-, -, hsrc, hlive⟩ := h_3
  · exact fun _ => hsrc.isSome rfl
  · exact fun ty hty => edge_objectAcc hsrc h_1 hty
  · exact fun w hw => hlive w (live_fields_mem fs fst m_1 (List.mem_of_find?_eq_some h_1) w hw)

/-- `k + a`: the literal, then the sum that mentions it -/
theorem tx_radd (k a) : GoalT m (.radd k a) := by
  tx_case [mkLiteral_typed, scalarResult_typed] using getScalar_reads
  all_goals expose_names   -- h_1: the literal made; the operand read is typed in its state as it was before
  all_goals have hta := tyAt_step h_1.1 hJ.store (And.right ‹_ = m.st ∧ _›)
  · exact ⟨h_1.1.inv, h_1.1.sto⟩
  · exact fun _ => by rw [hta]; rfl
  · exact fun t ht => edge_bin ht hta h_1.2.2
  · exact postT_val hJ (h_1.1.trans h_2.1) h_2.2
  · exact h_1.1.trans

/-- `nada_fn`, opening: the function's id is drawn (`hal`), then the parameters are made (`h`) -/
theorem tx_beginFn (name params) : GoalT m (.beginFn name params) := by
  tx_case [alloc_spec, bindParams_typed]
  all_goals expose_names
  all_goals have hal : _ ∧ s.counter = m.st.counter + 1 ∧ s.ops = m.st.ops := ‹_›
  all_goals have hst : Step m.st s := step_same_ops hal.2.2 (by omega) hJ.store hJ.ok.sto
  · exact hst.inv
  · exact postT_of hJ (hst.trans h.1).inv h.2
  · exact hst.trans

/-- A command that stores an input record under an id `k` drawn before — `T(Input(..))`, `Array(value, size)` — while no
stored record mentions `k`. -/
theorem postT_input {s : St} {k : Nat} {n p d : String} {ty : MTy} {v : Val}
    (hput : s.counter = m.st.counter ∧ s.ops = (k, .input n p d ty) :: m.st.ops)
    (hk : k ≤ m.st.counter) (hu : Unref m.st k)
    (hv : v.child = some k) (hty : v.toMir = .ok ty) (hlive : v.live = [v]) : PostT m s ([.val v], m.frames) := by
  refine postT_of hJ (storeInv_put hput.2 (Nat.le_of_eq hput.1.symm) (hput.1 ▸ hk) hJ.store hu (by simp [mentions_input]) rfl)
    fun x hx => ?_
  rw [List.mem_singleton.1 hx]
  refine regTyped_of_agree (fun c hc => ?_) hlive
  rw [hv] at hc; cases hc
  exact ⟨_, lookup_head hput.2, hty⟩

/-- `T(Input(..))`: the input record goes under the `Input` object's id (`h`) -/
theorem tx_wrap (t r) : GoalT m (.wrap t r) := by
  tx_case [put_spec]
  expose_names
  exact postT_input m hJ h_2 (hJ.ok.regsLe _ (List.mem_of_getElem? h) k (by simp [RVal.ids])) (hC.2 _ _ _ _ h) rfl rfl rfl

/-- `Array(value, size=…)`: the input record found (`h_3`) under the id (`h_1`) of the value read (`h_5`) is stored again
(`h_4`) with the array's type (`h_2`) -/
theorem tx_arrayOf (r size) : GoalT m (.arrayOf r size) := by
  tx_case [childOf_spec', liftE_spec', put_spec] using getVal_reads
  expose_names
  exact postT_input m hJ h_4 (hJ.ok.idsLe.lookup_le h_3) (hC.2 _ _ h_5.2.1 h_1.2) rfl h_2.2 rfl

/-- `nada_fn`, closing: the function record goes under the id drawn at the opening, which holds nothing (`MachOK.free`),
so that no stored record mentions it; the record (`h_5`) mentions the returned operation (`h_4`), whose recorded type is
the return type, and the parameters of the innermost bracket (`h`) -/
theorem tx_endFn (ret retAnn) : GoalT m (.endFn ret retAnn) := by
  tx_case [put_spec]
  expose_names
  intro hok'
  have hfree := hJ.ok.free fr (h ▸ List.mem_cons_self)
  have hsto : StoL s.ops := hok'.sto
  rw [h_5.2] at hsto
  have hty := agree_scalar.1 (hC.1 ret (by simp [Cmd.reads]) _ h_4 _ (self_mem_live _))
  refine postT_of hJ (storeInv_put h_5.2 (Nat.le_of_eq h_5.1.symm) (h_5.1 ▸ hfree.2) hJ.store (unref_of_none hJ.ok.sto hfree.1)
    (not_mem_of_none hfree.1 hsto.1) (by simp [edgeOK, hty])) (fun x hx => ?_) hok'
  rw [List.mem_singleton.1 hx]
  exact ⟨_, _, _, lookup_head h_5.2⟩

/-- **Every command**, run from a machine that satisfies the invariant: accepted, it leaves a machine that satisfies the
invariant; rejected, it has stored under fresh ids only. -/
theorem exec_typed (c : Cmd) : GoalT m c := by
  cases c with
  | party nm => exact tx_party m hJ nm
  | inputObj a b p => exact tx_inputObj m hJ a b p
  | wrap t r => exact tx_wrap m hJ t r
  | arrayOf r sz => exact tx_arrayOf m hJ r sz
  | lit b v => exact tx_lit m hJ b v
  | bin op a b => exact tx_bin m hJ op a b
  | invert a => exact tx_invert m hJ a
  | reveal a => exact tx_reveal m hJ a
  | truncPr a b => exact tx_truncPr m hJ a b
  | publicEquals a b => exact tx_publicEquals m hJ a b
  | ifElse c a b => exact tx_ifElse m hJ c a b
  | random t => exact tx_random m hJ t
  | radd k a => exact tx_radd m hJ k a
  | arrayNew xs => exact tx_arrayNew m hJ xs
  | tupleNew a b => exact tx_tupleNew m hJ a b
  | ntupleNew xs => exact tx_ntupleNew m hJ xs
  | objectNew fs => exact tx_objectNew m hJ fs
  | ntupleGet t i => exact tx_ntupleGet m hJ t i
  | objectGet o key => exact tx_objectGet m hJ o key
  | zip a b => exact tx_zip m hJ a b
  | unzip a => exact tx_unzip m hJ a
  | map a f => exact tx_map m hJ a f
  | reduce a f init => exact tx_reduce m hJ a f init
  | innerProduct a b => exact tx_innerProduct m hJ a b
  | beginFn name params => exact tx_beginFn m hJ name params
  | endFn ret retAnn => exact tx_endFn m hJ ret retAnn
  | call f args kws => exact tx_call m hJ f args kws
  | nop => exact tx_nop m hJ
end

end NadaVerif.Lemmas
