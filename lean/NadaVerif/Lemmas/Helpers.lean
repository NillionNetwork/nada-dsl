/-
Whatever was compiled before and whatever was edited in between: the helper modules a program runs
against are modules of its own directory, loaded from the files that are on disk now.
-/
import NadaVerif.Runtime.Helpers

namespace NadaVerif.Runtime

/-- the test `enter` makes is "not fresh" -/
theorem fresh_iff (disk : Disk) (dir : String) (r : Registry) :
    Fresh disk dir r ↔ r.any (fun h => h.owner != dir || !h.current disk) = false := by
  simp [Fresh]

theorem enter_fresh (disk : Disk) (dir : String) (r : Registry) : Fresh disk dir (enter disk dir r) := by
  unfold enter
  split
  · nofun
  · exact (fresh_iff ..).mpr (Bool.eq_false_iff.mpr ‹_›)

theorem enter_of_fresh (disk : Disk) (dir : String) (r : Registry) (h : Fresh disk dir r) : enter disk dir r = r :=
  if_neg (Bool.eq_false_iff.mp ((fresh_iff ..).mp h))

theorem importMod_fresh (disk : Disk) (dir : String) (r : Registry) (name : String) (h : Fresh disk dir r) :
    Fresh disk dir (importMod disk dir r name).1 := by
  fun_cases importMod disk dir r name
  · exact h
  · rename_i st hst
    exact List.forall_mem_append.mpr ⟨h, List.forall_mem_singleton.mpr ⟨rfl, by simp [Helper.current, hst]⟩⟩
  · exact h

/-- **During and after a compilation every loaded helper is the program's own and current**, whatever the registry held before. -/
theorem compileFrom_fresh (disk : Disk) (dir : String) (names : List String) (r : Registry) :
    Fresh disk dir (compileFrom disk dir names r).1 :=
  List.foldlRecOn (motive := fun acc : Registry × List String => Fresh disk dir acc.1) names _ (enter_fresh disk dir r)
    fun acc h n _ => importMod_fresh disk dir acc.1 n h

/-- a module that the program imports and that has a file in the program's directory is loaded afterwards … -/
theorem importMod_loaded (disk : Disk) (dir : String) (r : Registry) (name : String) (st : Nat) (hd : disk dir name = some st) :
    ∃ h ∈ (importMod disk dir r name).1, h.name = name := by
  unfold importMod
  split
  · rename_i hany
    obtain ⟨h, hh, hn⟩ := List.any_eq_true.mp hany
    exact ⟨h, hh, by simpa using hn⟩
  · simp only [hd]
    exact ⟨⟨name, dir, st⟩, by simp, rfl⟩

/-- … and from the file that is on disk now: a fresh registry records for each helper the disk's stamp. -/
theorem Fresh.stamp {disk : Disk} {dir : String} {r : Registry} (hf : Fresh disk dir r) {h : Helper} (hh : h ∈ r)
    {st : Nat} (hd : disk dir h.name = some st) : h.owner = dir ∧ h.stamp = st := by
  obtain ⟨ho, hc⟩ := hf h hh
  rw [Helper.current, ho, hd, beq_iff_eq] at hc
  exact ⟨ho, (Option.some.inj hc).symm⟩

/-- … and, by `compileFrom_fresh`, from the file that is on disk now: the stamp recorded for it is the disk's.  Stated for the
last history step: after any history, the helper `name` the last program imported first carries today's stamp. -/
theorem helper_is_current_after_history (hist : List Step) (s : Step) (name : String) (rest : List String) (st : Nat)
    (hn : s.names = name :: rest) (hd : s.disk s.dir name = some st) :
    ∀ h ∈ (compileFrom s.disk s.dir s.names (runSteps [] hist)).1, h.name = name → h.owner = s.dir ∧ h.stamp = st :=
  fun _ hh hname => (compileFrom_fresh _ _ _ _).stamp hh (hname ▸ hd)

/-- **Nothing is loaded twice while nothing changes**: a program of the same directory whose helpers are all loaded, from files that
are still the ones on disk, executes none of them again (helper modules of one directory are imported once — what the entry-point
composition K10 relies on, and what makes module-level state of a helper persist between programs of its directory by design). -/
theorem compileFrom_noexec (disk : Disk) (dir : String) (names : List String) (r : Registry)
    (hf : Fresh disk dir r) (hl : ∀ n ∈ names, r.any (·.name == n) = true) :
    compileFrom disk dir names r = (r, []) := by
  unfold compileFrom
  rw [enter_of_fresh disk dir r hf]
  exact List.foldlRecOn (motive := (· = (r, []))) names _ rfl fun acc h n hn => by
    subst h
    simp [importMod, hl n hn]

/-- Sensitivity: a registry that still holds a helper whose file has changed since (`inner`; what forgetting only *one* stale
helper left behind before repair `0dc3edb`) is not fresh, whatever else it holds: the invariant is about *every* loaded helper. -/
example : ¬ Fresh (fun _ n => if n = "inner" then some 2 else some 1) "d" [⟨"outer", "d", 1⟩, ⟨"inner", "d", 1⟩] := by
  intro h
  have := (h ⟨"inner", "d", 1⟩ (by simp)).2
  simp [Helper.current] at this

example : (compileFrom (fun _ n => if n = "inner" then some 2 else some 1) "d" ["outer", "inner"] [⟨"outer", "d", 1⟩, ⟨"inner", "d", 1⟩]) =
    ([⟨"outer", "d", 1⟩, ⟨"inner", "d", 2⟩], ["outer", "inner"]) := by decide

end NadaVerif.Runtime
