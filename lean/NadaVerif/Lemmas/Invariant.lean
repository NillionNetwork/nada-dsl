/-
The structural invariant of the trace, stated (no monad here; `Lemmas/TraceInv.lean` proves it for every command list).

`Val.ids`, `RVal.ids`, `RVal.sids`, `AstOp.mentions`: the ids a value, a register, a record holds.
`WFops ops`   : every stored record's operand ids are smaller than the id it is stored under
                (so operand references can never form a cycle, `Spec.storeWF`);
`StoL ops`    : every stored record mentions (as operand, as applied function, as a function's return
                operation or parameter) only ids that were stored *before* it;
`RegsLe`, `RegsSto`, `FramesSto`: every operation id held inside a register value has been drawn (`≤` the counter) and
                is stored, and so are the parameters of an open function bracket;
`IdsLe s`     : nothing is stored above the counter;
`MachOK m`    : all of these of a machine, and what keeps the ids apart under which a command stores without having
                drawn them: an `Input` object's id holds nothing or an input record, an open function bracket's id
                holds nothing and is the id of no `Input` object and of no other bracket.
`Persist s s'`: what `s` has recorded under an id is what `s'` returns for it (an input record may be re-typed).
`Adv s0 s`    : what a piece of the trace that stores under ids it draws itself does to the store (the counter does not
                decrease, `WFops`, `StoL`, `IdsLe` are kept, lookups at the ids drawn before are unchanged: `FrameRel`);
                `adv_fresh`: storing one record so.  `StepAt k s0 s`: … except possibly under the one old id `k`.
`Good s x`, `RGood s0 s r`: an id / a register that is drawn and stored in `s`.
`MachOK.at`   : the one argument that a command leaves a machine in order and keeps the records (`Persist`);
                `MachOK.fresh`, `MachOK.put`: its two cases — ids drawn by the command, one id drawn before.
-/
import NadaVerif.Lemmas.Store
import NadaVerif.Spec.Graph
import NadaVerif.Spec.Edge

namespace NadaVerif

mutual
/-- every operation id held inside a value (its own `child`, and those of everything it contains) -/
def Val.ids : Val → List Id
  | .scalar _ c _ => c.toList
  | .array e _ c => c.toList ++ Elem.ids e
  | .tuple l r c => c.toList ++ Elem.ids l ++ Elem.ids r
  | .ntuple vs c => c.toList ++ Vals.ids vs
  | .object fs c => c.toList ++ VFields.ids fs
def Elem.ids : Elem → List Id
  | .cls _ | .typeVar => []
  | .inst v => Val.ids v
  | .arrayType e _ => Elem.ids e
def Vals.ids : Vals → List Id
  | .nil => []
  | .cons v vs => Val.ids v ++ Vals.ids vs
def VFields.ids : VFields → List Id
  | .nil => []
  | .cons _ v fs => Val.ids v ++ VFields.ids fs
end

/-- ids a register holds that must have been drawn: those inside a value, and the id of an `Input` object (which is
stored only when the input is wrapped; a function's id is stored when the register is bound: `RVal.sids`) -/
def RVal.ids : RVal → List Id
  | .val v => Val.ids v
  | .input k _ _ _ => [k]
  | _ => []

/-- every id a record mentions: operands, applied function, and for a function its return operation and parameters -/
def AstOp.mentions (op : AstOp) : List Id :=
  op.children ++ op.fnRef.toList ++ (match op with | .function _ args child _ => child :: args | _ => [])

/-- ids a register holds that must be stored: those inside a value, and a function's id -/
def RVal.sids : RVal → List Id
  | .val v => Val.ids v
  | .fn fid _ _ => [fid]
  | _ => []

end NadaVerif

namespace NadaVerif.Lemmas
open NadaVerif NadaVerif.Spec

theorem child_mem_ids {v : Val} {c : Id} (h : v.child = some c) : c ∈ Val.ids v := by
  cases v <;> simp_all [Val.child, Val.ids]

theorem mem_vals_ids : ∀ (vs : Vals) (v : Val), v ∈ vs.toList → ∀ x ∈ Val.ids v, x ∈ Vals.ids vs
  | .nil, _, h => by simp [Vals.toList] at h
  | .cons w ws, v, h => by
    simp only [Vals.toList, List.mem_cons] at h
    intro x hx
    simp only [Vals.ids, List.mem_append]
    rcases h with rfl | h
    · exact .inl hx
    · exact .inr (mem_vals_ids ws v h x hx)

theorem mem_fields_ids : ∀ (fs : VFields) (k : String) (v : Val), (k, v) ∈ fs.toList →
    ∀ x ∈ Val.ids v, x ∈ VFields.ids fs
  | .nil, _, _, h => by simp [VFields.toList] at h
  | .cons k' w ws, k, v, h => by
    simp only [VFields.toList, List.mem_cons, Prod.mk.injEq] at h
    intro x hx
    simp only [VFields.ids, List.mem_append]
    rcases h with ⟨_, rfl⟩ | h
    · exact .inl hx
    · exact .inr (mem_fields_ids ws k v h x hx)

theorem ids_ofList (vs : List Val) : ∀ x, x ∈ Vals.ids (Vals.ofList vs) ↔ ∃ v ∈ vs, x ∈ Val.ids v := by
  induction vs with
  | nil => simp [Vals.ofList, Vals.ids]
  | cons v vs ih => intro x; simp [Vals.ofList, Vals.ids, ih x]

theorem ids_fieldsOfList (fs : List (String × Val)) :
    ∀ x, x ∈ VFields.ids (VFields.ofList fs) ↔ ∃ v ∈ fs.map (·.2), x ∈ Val.ids v := by
  induction fs with
  | nil => simp [VFields.ofList, VFields.ids]
  | cons p fs ih => intro x; obtain ⟨k, v⟩ := p; simp [VFields.ofList, VFields.ids, ih x]

theorem ids_withChild (v : Val) (k : Id) : ∀ x ∈ Val.ids (v.withChild k), x = k ∨ x ∈ Val.ids v := by
  intro x hx
  cases v <;> simp_all [Val.withChild, Val.ids] <;> grind

theorem mentions_binary (n l r ty) : (AstOp.binary n l r ty).mentions = [l, r] := rfl
theorem mentions_unary (n c ty) : (AstOp.unary n c ty).mentions = [c] := rfl
theorem mentions_ifElse (c t f ty) : (AstOp.ifElse c t f ty).mentions = [c, t, f] := rfl
theorem mentions_reduce (c fn i ty) : (AstOp.reduce c fn i ty).mentions = [c, i, fn] := rfl
theorem mentions_map (c fn ty) : (AstOp.map c fn ty).mentions = [c, fn] := rfl
theorem mentions_new (n es ty) : (AstOp.new n es ty).mentions = es := by simp [AstOp.mentions, AstOp.children, AstOp.fnRef]
theorem mentions_call (as fn ty) : (AstOp.call as fn ty).mentions = as ++ [fn] := by
  simp [AstOp.mentions, AstOp.children, AstOp.fnRef]
theorem mentions_ntupleAcc (i s ty) : (AstOp.ntupleAcc i s ty).mentions = [s] := rfl
theorem mentions_objectAcc (n s ty) : (AstOp.objectAcc n s ty).mentions = [s] := rfl
theorem mentions_random (ty) : (AstOp.random ty).mentions = [] := rfl
theorem mentions_input (n p d ty) : (AstOp.input n p d ty).mentions = [] := rfl
theorem mentions_literal (v i ty) : (AstOp.literal v i ty).mentions = [] := rfl
theorem mentions_argRef (n f ty) : (AstOp.argRef n f ty).mentions = [] := rfl
theorem mentions_function (n args c ty) : (AstOp.function n args c ty).mentions = c :: args := rfl

theorem children_sub_mentions (op : AstOp) : ∀ c ∈ op.children, c ∈ op.mentions := by
  intro c hc; simp [AstOp.mentions, hc]

def WFops (ops : List (Id × AstOp)) : Prop := ∀ e ∈ ops, ∀ c ∈ e.2.children, c < e.1

theorem storeWF_iff (s : St) : storeWF s = true ↔ WFops s.ops := by
  simp [storeWF, WFops, List.all_eq_true]

theorem WFops_cons (k : Id) (op : AstOp) (ops : List (Id × AstOp)) :
    WFops ((k, op) :: ops) ↔ (∀ c ∈ op.children, c < k) ∧ WFops ops := by
  simp [WFops]

def ValLe (n : Nat) (v : Val) : Prop := ∀ x ∈ Val.ids v, x ≤ n
def RegsLe (n : Nat) (rs : List RVal) : Prop := ∀ r ∈ rs, ∀ x ∈ r.ids, x ≤ n

theorem ValLe.mono {n m : Nat} {v : Val} (h : ValLe n v) (hnm : n ≤ m) : ValLe m v :=
  fun x hx => Nat.le_trans (h x hx) hnm
theorem RegsLe.append {n : Nat} {a b : List RVal} (ha : RegsLe n a) (hb : RegsLe n b) : RegsLe n (a ++ b) :=
  List.forall_mem_append.2 ⟨ha, hb⟩
theorem RegsLe.val {n : Nat} {rs : List RVal} {v : Val} (h : RegsLe n rs) (hm : RVal.val v ∈ rs) : ValLe n v :=
  fun x hx => h _ hm x hx

/-- newest first: each record mentions only what the older part of the store holds -/
def StoL : List (Id × AstOp) → Prop
  | [] => True
  | (_, op) :: ops => (∀ c ∈ op.mentions, Has ops c) ∧ StoL ops

/-- the unordered consequence: whatever a stored record mentions is stored -/
theorem StoL.closed : ∀ {ops : List (Id × AstOp)}, StoL ops → ∀ e ∈ ops, ∀ c ∈ e.2.mentions, Has ops c
  | [], _, e, he => by simp at he
  | (k, op) :: ops, h, e, he => by
    intro c hc
    rcases List.mem_cons.1 he with rfl | he
    · exact (Has_cons _ _ _ _).2 (.inr (h.1 c hc))
    · exact (Has_cons _ _ _ _).2 (.inr (StoL.closed h.2 e he c hc))

def RegsSto (ops : List (Id × AstOp)) (rs : List RVal) : Prop := ∀ r ∈ rs, ∀ x ∈ r.sids, Has ops x
def FramesSto (ops : List (Id × AstOp)) (fs : List Frame) : Prop := ∀ fr ∈ fs, ∀ p ∈ fr.params, Has ops p.1

theorem RegsSto.mono {a b : List (Id × AstOp)} {rs : List RVal} (h : RegsSto a rs) (hab : ∀ x, Has a x → Has b x) :
    RegsSto b rs := fun r hr x hx => hab x (h r hr x hx)
theorem RegsSto.append {ops} {a b : List RVal} (ha : RegsSto ops a) (hb : RegsSto ops b) : RegsSto ops (a ++ b) :=
  List.forall_mem_append.2 ⟨ha, hb⟩

theorem ids_withChild_sto (ops) (v : Val) (k : Id) (hk : Has ops k) (hv : ∀ x ∈ Val.ids v, Has ops x) :
    ∀ x ∈ Val.ids (v.withChild k), Has ops x := by
  intro x hx
  rcases ids_withChild v k x hx with rfl | h
  · exact hk
  · exact hv x h

/-- what a piece of the trace may do to the state: the counter does not decrease, well-formedness is kept -/
def Ext (s0 s : St) : Prop := s0.counter ≤ s.counter ∧ (WFops s0.ops → WFops s.ops)

theorem Ext.refl (s : St) : Ext s s := ⟨Nat.le_refl _, id⟩
theorem Ext.trans {a b c : St} (h1 : Ext a b) (h2 : Ext b c) : Ext a c :=
  ⟨Nat.le_trans h1.1 h2.1, fun h => h2.2 (h1.2 h)⟩

/-- … stored ids stay stored, closedness is kept -/
def ExtS (s0 s : St) : Prop := (∀ x, Has s0.ops x → Has s.ops x) ∧ (StoL s0.ops → StoL s.ops)

theorem ExtS.refl (s : St) : ExtS s s := ⟨fun _ h => h, id⟩

def IdsLe (s : St) : Prop := ∀ e ∈ s.ops, (e.1 : Nat) ≤ s.counter

theorem IdsLe.lookup_le {s : St} (h : IdsLe s) {k : Nat} {op : AstOp} (hl : s.lookup k = some op) : k ≤ s.counter := by
  obtain ⟨o, hm⟩ := lookup_some_has s k op hl
  exact h _ hm

theorem IdsLe.none_above {s : St} (h : IdsLe s) {k : Nat} (hk : s.counter < k) : s.lookup k = none := by
  cases hl : s.lookup k with
  | none => rfl
  | some op => exact absurd (h.lookup_le hl) (by omega)

theorem IdsLe.put {s0 s : St} {k : Nat} {op : AstOp} (h : IdsLe s0) (ho : s.ops = (k, op) :: s0.ops)
    (hc : s0.counter ≤ s.counter) (hk : k ≤ s.counter) : IdsLe s := by
  intro e he
  rw [ho] at he
  rcases List.mem_cons.1 he with rfl | he
  · exact hk
  · exact Nat.le_trans (h e he) hc

def FrameRel (s0 s : St) : Prop := s0.counter ≤ s.counter ∧ ∀ k, k ≤ s0.counter → s.lookup k = s0.lookup k

theorem FrameRel.refl (s : St) : FrameRel s s := ⟨Nat.le_refl _, fun _ _ => rfl⟩
theorem FrameRel.trans {a b c : St} (h1 : FrameRel a b) (h2 : FrameRel b c) : FrameRel a c :=
  ⟨Nat.le_trans h1.1 h2.1, fun k hk => by rw [h2.2 k (Nat.le_trans hk h1.1), h1.2 k hk]⟩

def Persist (s s' : St) : Prop :=
  ∀ k op, s.lookup k = some op →
    (op.isInput = false → s'.lookup k = some op) ∧ (op.isInput = true → ∃ op', s'.lookup k = some op' ∧ op'.isInput = true)

theorem Persist.refl (s : St) : Persist s s := fun _ op h => ⟨fun _ => h, fun hi => ⟨op, h, hi⟩⟩

theorem Persist.trans {a b c : St} (h1 : Persist a b) (h2 : Persist b c) : Persist a c := by
  intro k op h
  obtain ⟨p1, p2⟩ := h1 k op h
  refine ⟨fun hn => (h2 k op (p1 hn)).1 hn, fun hi => ?_⟩
  obtain ⟨op', h', hi'⟩ := p2 hi
  exact (h2 k op' h').2 hi'

theorem Persist.has {s s' : St} (h : Persist s s') (x : Id) (hx : Has s.ops x) : Has s'.ops x := by
  obtain ⟨op, hl⟩ := has_lookup s x hx
  cases hi : op.isInput with
  | false => exact lookup_some_has s' x op ((h x op hl).1 hi)
  | true => obtain ⟨op', hl', -⟩ := (h x op hl).2 hi; exact lookup_some_has s' x op' hl'

/-- What a command may do to the ids drawn before it: what the store returns for them is unchanged, except possibly
under the one id `k`; a record found there was an input record and is replaced by an input record. -/
structure StepAt (k : Nat) (s0 s : St) : Prop where
  counter : s0.counter ≤ s.counter
  same : ∀ x, x ≤ s0.counter → x ≠ k → s.lookup x = s0.lookup x
  atK : ∀ op, s0.lookup k = some op → op.isInput = true ∧ ∃ op', s.lookup k = some op' ∧ op'.isInput = true

/-- nothing is stored above the counter, so a command that leaves the old ids alone is the case of the next id -/
theorem FrameRel.at {s0 s : St} (h : FrameRel s0 s) (hi : IdsLe s0) : StepAt (s0.counter + 1) s0 s :=
  ⟨h.1, fun x hx _ => h.2 x hx, fun _ hl => absurd (hi.lookup_le hl) (Nat.not_succ_le_self _)⟩

theorem StepAt.persist {k : Nat} {s0 s : St} (h : StepAt k s0 s) (hi : IdsLe s0) : Persist s0 s := by
  intro x op hl
  by_cases e : x = k
  · subst e
    obtain ⟨hin, hnew⟩ := h.atK op hl
    exact ⟨fun hf => (by rw [hin] at hf; cases hf), fun _ => hnew⟩
  · have : s.lookup x = some op := by rw [h.same x (hi.lookup_le hl) e]; exact hl
    exact ⟨fun _ => this, fun hin => ⟨op, this, hin⟩⟩

/-- What a piece of the trace that stores under ids it has drawn itself does to the store: the counter does not decrease,
stored ids stay stored, a store that is well formed and closed stays so, what is stored under the ids drawn before is
left alone, and nothing is stored above the counter. -/
structure Adv (s0 s : St) : Prop where
  ext : Ext s0 s
  extS : ExtS s0 s
  frame : FrameRel s0 s
  idsLe : IdsLe s0 → IdsLe s

section
variable {s0 s : St} (h : Adv s0 s)
include h
theorem Adv.counter : s0.counter ≤ s.counter := h.ext.1
theorem Adv.wf : WFops s0.ops → WFops s.ops := h.ext.2
theorem Adv.has : ∀ x, Has s0.ops x → Has s.ops x := h.extS.1
theorem Adv.sto : StoL s0.ops → StoL s.ops := h.extS.2
end

theorem Adv.refl (s : St) : Adv s s := ⟨Ext.refl s, ExtS.refl s, FrameRel.refl s, id⟩

theorem Adv.trans {a b c : St} (h1 : Adv a b) (h2 : Adv b c) : Adv a c :=
  ⟨h1.ext.trans h2.ext, ⟨fun x h => h2.has x (h1.has x h), h2.sto ∘ h1.sto⟩, h1.frame.trans h2.frame, h2.idsLe ∘ h1.idsLe⟩

theorem adv_same {s0 s : St} (hc : s0.counter ≤ s.counter) (ho : s.ops = s0.ops) : Adv s0 s :=
  ⟨⟨hc, ho ▸ id⟩, ⟨fun _ => ho ▸ id, ho ▸ id⟩, ⟨hc, fun k _ => lookup_eq_of_ops s s0 ho k⟩,
   fun hi e he => Nat.le_trans (hi e (ho ▸ he)) hc⟩

/-- an id a value may carry in state `s`: drawn and stored -/
def Good (s : St) (x : Id) : Prop := x ≤ s.counter ∧ Has s.ops x

theorem Good.mono {s0 s : St} (h : Adv s0 s) {x : Id} (hx : Good s0 x) : Good s x :=
  ⟨Nat.le_trans hx.1 h.counter, h.has x hx.2⟩

/-- What a register bound by a command that ran from `s0` to `s` may hold: ids that are drawn (values, `Input` objects)
and stored (values, functions); an `Input` object's id was drawn by the command and holds nothing. -/
def RGood (s0 s : St) (r : RVal) : Prop :=
  (∀ x ∈ r.ids, x ≤ s.counter) ∧ (∀ x ∈ r.sids, Has s.ops x) ∧
    ∀ k n p d, r = .input k n p d → s0.counter < k ∧ s.lookup k = none

theorem rgood_val {s0 s : St} {v : Val} : RGood s0 s (.val v) ↔ ∀ x ∈ Val.ids v, Good s x :=
  ⟨fun h x hx => ⟨h.1 x hx, h.2.1 x hx⟩, fun h => ⟨fun x hx => (h x hx).1, fun x hx => (h x hx).2, nofun⟩⟩
theorem rgood_party {s0 s : St} {n : String} : RGood s0 s (.party n) ↔ True := by simp [RGood, RVal.ids, RVal.sids]
theorem rgood_input {s0 s : St} {k : Id} {n p d : String} :
    RGood s0 s (.input k n p d) ↔ k ≤ s.counter ∧ s0.counter < k ∧ s.lookup k = none :=
  ⟨fun h => ⟨h.1 k (by simp [RVal.ids]), h.2.2 k n p d rfl⟩,
   fun h => ⟨by simp [RVal.ids, h.1], by simp [RVal.sids], by rintro _ _ _ _ ⟨⟩; exact h.2⟩⟩
theorem rgood_fn {s0 s : St} {k : Id} {t : STy} {ns : List String} : RGood s0 s (.fn k t ns) ↔ Has s.ops k := by
  simp [RGood, RVal.ids, RVal.sids]

/-- The common shape: an id was drawn and a record stored under it, whose operands are older and what it mentions stored.
(`h` is one conjunction: the form in which `alloc_spec` and `put_spec` leave it in a verification condition.) -/
theorem adv_fresh {s0 s : St} {op : AstOp}
    (h : s.counter = s0.counter + 1 ∧ s.ops = (s0.counter + 1, op) :: s0.ops)
    (hc : ∀ c ∈ op.children, c ≤ s0.counter) (hm : ∀ c ∈ op.mentions, Has s0.ops c) :
    Adv s0 s ∧ Good s (s0.counter + 1) ∧ ∀ x, Good s0 x → Good s x := by
  have hle : s0.counter ≤ s.counter := by omega
  have hadv : Adv s0 s :=
    ⟨⟨hle, fun hw => h.2 ▸ (WFops_cons _ _ _).2 ⟨fun c hc' => Nat.lt_succ_of_le (hc c hc'), hw⟩⟩,
     ⟨fun x hx => h.2 ▸ (Has_cons _ _ _ _).2 (.inr hx), fun hs => h.2 ▸ ⟨hm, hs⟩⟩,
     ⟨hle, fun x hx => by rw [lookup_put h.2, if_neg (Nat.ne_of_lt (Nat.lt_succ_of_le hx))]⟩,
     fun hi => hi.put h.2 hle (Nat.le_of_eq h.1.symm)⟩
  exact ⟨hadv, ⟨Nat.le_of_eq h.1.symm, by rw [h.2]; exact (Has_cons _ _ _ _).2 (.inl rfl)⟩, fun _ => Good.mono hadv⟩

/-- … the same when all it mentions are ids of values -/
theorem adv_fresh' {s0 s : St} {op : AstOp}
    (h : s.counter = s0.counter + 1 ∧ s.ops = (s0.counter + 1, op) :: s0.ops) (hm : ∀ c ∈ op.mentions, Good s0 c) :
    Adv s0 s ∧ Good s (s0.counter + 1) ∧ ∀ x, Good s0 x → Good s x :=
  adv_fresh h (fun c hc => (hm c (children_sub_mentions op c hc)).1) fun c hc => (hm c hc).2

/-- The machine invariant: the store is well formed and closed and holds nothing above the counter; the ids held by
registers and open function brackets are drawn and stored; an `Input` object's id holds nothing or an input record
(`inputs`: what lets `T(Input)` store under it); the id of an open function bracket is drawn, holds nothing yet (`free`),
and is the id of no `Input` object (`disj`) and of no other open bracket (`nodup`). -/
structure MachOK (m : Mach) : Prop where
  wf : WFops m.st.ops
  sto : StoL m.st.ops
  idsLe : IdsLe m.st
  regsLe : RegsLe m.st.counter m.regs
  regsSto : RegsSto m.st.ops m.regs
  framesSto : FramesSto m.st.ops m.frames
  inputs : ∀ k n p d, RVal.input k n p d ∈ m.regs → ∀ op, m.st.lookup k = some op → op.isInput = true
  free : ∀ fr ∈ m.frames, m.st.lookup fr.fid = none ∧ (fr.fid : Nat) ≤ m.st.counter
  disj : ∀ k n p d, RVal.input k n p d ∈ m.regs → ∀ fr ∈ m.frames, k ≠ fr.fid
  nodup : (m.frames.map (·.fid)).Nodup

theorem machOK_init : MachOK {} :=
  ⟨by simp [WFops], trivial, by simp [IdsLe], by simp [RegsLe], by simp [RegsSto], by simp [FramesSto], by simp, by simp,
   by simp, by simp⟩

/-- a bracket opened by a command that ran from `s0` to `s` and bound `vals`: its id was drawn by the command and holds
nothing, its parameters are stored, and only values were bound -/
structure NewFrame (s0 s : St) (vals : List RVal) (fr : Frame) : Prop where
  gt : s0.counter < fr.fid
  le : (fr.fid : Nat) ≤ s.counter
  free : s.lookup fr.fid = none
  params : ∀ p ∈ fr.params, Has s.ops p.1
  vals : ∀ x ∈ vals, ∃ v, x = RVal.val v

section
variable {m : Mach} (h : MachOK m)
include h

/-- The invariant after a command that changed at most what is stored under `k`, and the records kept: an `Input` object
of id `k` (`hk`) and the brackets that stay open (`hfr`: their ids are not `k`, or the bracket is new) are the command's
business. -/
theorem MachOK.at {s : St} {k : Nat} {vals : List RVal} {frames' : List Frame} (hst : StepAt k m.st s)
    (hwf : WFops s.ops) (hsto : StoL s.ops) (hi : IdsLe s)
    (hk : ∀ n p d, RVal.input k n p d ∈ m.regs → ∀ op, s.lookup k = some op → op.isInput = true)
    (hv : ∀ x ∈ vals, RGood m.st s x)
    (hfr : ∀ fr ∈ frames', (fr ∈ m.frames ∧ (fr.fid : Nat) ≠ k) ∨ NewFrame m.st s vals fr)
    (hnd : (frames'.map (·.fid)).Nodup) : MachOK ⟨s, m.regs ++ vals, frames'⟩ ∧ Persist m.st s := by
  have hp := hst.persist h.idsLe
  have hle : ∀ {k' n p d}, RVal.input k' n p d ∈ m.regs → k' ≤ m.st.counter := fun hm => h.regsLe _ hm _ (by simp [RVal.ids])
  refine ⟨⟨hwf, hsto, hi, ?_, ?_, fun fr hfr' p hp' => ?_, fun k' n p d hk' => ?_, fun fr hfr' => ?_,
    fun k' n p d hk' fr hfr' => ?_, hnd⟩, hp⟩
  · exact RegsLe.append (fun r hr x hx => Nat.le_trans (h.regsLe r hr x hx) hst.counter) fun r hr => (hv r hr).1
  · exact (h.regsSto.mono hp.has).append fun r hr => (hv r hr).2.1
  · exact (hfr fr hfr').elim (fun o => hp.has _ (h.framesSto fr o.1 p hp')) fun n => n.params p hp'
  · rcases List.mem_append.1 hk' with hk' | hk'
    · by_cases e : k' = k
      · exact e ▸ hk n p d (e ▸ hk')
      · rw [hst.same k' (hle hk') e]; exact h.inputs k' n p d hk'
    · intro op hop
      rw [((hv _ hk').2.2 k' n p d rfl).2] at hop; cases hop
  · rcases hfr fr hfr' with ⟨o, hne⟩ | n
    · have := h.free fr o
      exact ⟨by rw [hst.same _ this.2 hne]; exact this.1, Nat.le_trans this.2 hst.counter⟩
    · exact ⟨n.free, n.le⟩
  · rcases List.mem_append.1 hk' with hk' | hk'
    · rcases hfr fr hfr' with ⟨o, _⟩ | n
      · exact h.disj k' n p d hk' fr o
      · exact Nat.ne_of_lt (Nat.lt_of_le_of_lt (hle hk') n.gt)
    · have hgt : m.st.counter < (k' : Nat) := ((hv _ hk').2.2 k' n p d rfl).1
      rcases hfr fr hfr' with ⟨o, _⟩ | n
      · exact Nat.ne_of_gt (Nat.lt_of_le_of_lt (h.free fr o).2 hgt)
      · obtain ⟨v, hv'⟩ := n.vals _ hk'; cases hv'

/-- The brackets after a command that stores under ids it has drawn itself: those before (the innermost possibly left),
or one more. -/
def FramesNew (m : Mach) (s : St) (r : List RVal × List Frame) : Prop :=
  r.2.Sublist m.frames ∨ ∃ fr, r.2 = fr :: m.frames ∧ NewFrame m.st s r.1 fr

/-- success of a command that stores under ids it has drawn itself -/
def Post (m : Mach) (s : St) (r : List RVal × List Frame) : Prop :=
  Adv m.st s ∧ (∀ x ∈ r.1, RGood m.st s x) ∧ FramesNew m s r

omit h in
theorem post_one {s : St} {x : RVal} : Post m s ([x], m.frames) ↔ Adv m.st s ∧ RGood m.st s x := by
  simp only [Post, List.mem_singleton, forall_eq, and_congr_right_iff, and_iff_left_iff_imp]
  exact fun _ _ => .inl (List.Sublist.refl _)

theorem MachOK.fresh {s : St} {r : List RVal × List Frame} (hpost : Post m s r) :
    MachOK ⟨s, m.regs ++ r.1, r.2⟩ ∧ Persist m.st s := by
  obtain ⟨ha, hv, hfr⟩ := hpost
  have hfid : ∀ fr ∈ m.frames, (fr.fid : Nat) ≠ m.st.counter + 1 := fun fr hm =>
    Nat.ne_of_lt (Nat.lt_succ_of_le (h.free fr hm).2)
  refine h.at (ha.frame.at h.idsLe) (ha.wf h.wf) (ha.sto h.sto) (ha.idsLe h.idsLe) (fun n p d hm => ?_) hv (fun fr hm => ?_) ?_
  · exact absurd (h.regsLe _ hm (m.st.counter + 1) (by simp [RVal.ids])) (Nat.not_succ_le_self _)
  · rcases hfr with hs | ⟨fr', e, hn⟩
    · exact .inl ⟨hs.subset hm, hfid fr (hs.subset hm)⟩
    · rw [e] at hm
      rcases List.mem_cons.1 hm with rfl | hm
      · exact .inr hn
      · exact .inl ⟨hm, hfid fr hm⟩
  · rcases hfr with hs | ⟨fr', e, hn⟩
    · exact (hs.map _).nodup h.nodup
    · rw [e, List.map_cons, List.nodup_cons]
      refine ⟨fun hm => ?_, h.nodup⟩
      obtain ⟨fr'', hfr'', he⟩ := List.mem_map.1 hm
      exact absurd (he ▸ (h.free fr'' hfr'').2) (Nat.not_le.2 hn.gt)

/-- A record stored under an id `k` drawn before: `k` held nothing, or an input record and an input record is stored; the
record's operands are older and what it mentions is stored; the brackets left open have other ids.  (`hx`, of the
register bound: `k` is good now, and what was good is.) -/
theorem MachOK.put {s : St} {k : Nat} {op : AstOp} {x : RVal} {frames' : List Frame}
    (hput : s.counter = m.st.counter ∧ s.ops = (k, op) :: m.st.ops) (hk : k ≤ m.st.counter)
    (hlt : ∀ c ∈ op.children, c < k) (hm : ∀ c ∈ op.mentions, Has m.st.ops c)
    (hold : ∀ o, m.st.lookup k = some o → o.isInput = true ∧ op.isInput = true)
    (hin : ∀ n p d, RVal.input k n p d ∈ m.regs → op.isInput = true)
    (hx : Good s k → (∀ i, Good m.st i → Good s i) → RGood m.st s x)
    (hfr : frames'.Sublist m.frames) (hne : ∀ fr ∈ frames', (fr.fid : Nat) ≠ k) :
    MachOK ⟨s, m.regs ++ [x], frames'⟩ ∧ Persist m.st s := by
  obtain ⟨hc, ho⟩ := hput
  have hhas : ∀ x, Has m.st.ops x → Has s.ops x := fun x hx => ho ▸ (Has_cons _ _ _ _).2 (.inr hx)
  refine h.at ⟨Nat.le_of_eq hc.symm, fun x _ hx => by rw [lookup_put ho, if_neg hx],
      fun o hl => ⟨(hold o hl).1, op, lookup_head ho, (hold o hl).2⟩⟩
    (ho ▸ (WFops_cons _ _ _).2 ⟨hlt, h.wf⟩) (ho ▸ ⟨hm, h.sto⟩) (h.idsLe.put ho (Nat.le_of_eq hc.symm) (hc ▸ hk))
    (fun n p d hr o ho' => ?_)
    (fun y hy => List.mem_singleton.1 hy ▸ hx ⟨hc ▸ hk, ho ▸ (Has_cons _ _ _ _).2 (.inl rfl)⟩ fun i hi => ⟨hc ▸ hi.1, hhas i hi.2⟩)
    (fun fr hfr' => .inl ⟨hfr.subset hfr', hne fr hfr'⟩) ((hfr.map _).nodup h.nodup)
  rw [lookup_head ho] at ho'; cases ho'
  exact hin n p d hr
end

end NadaVerif.Lemmas
