/-
The timers of a process are balanced: whatever a compilation does — succeed, fail while the program is
loaded, inside `nada_main`, in the middle of the outputs, or with a `TimerError` of its own — the set of
running timers afterwards is the set before.  By induction over the outputs of a program and over the
history of compilations; no bound on either.
-/
import NadaVerif.Runtime.Timer

namespace NadaVerif.Runtime

abbrev exec {α} (x : TM α) (s : TState) : Except TErr α × TState := x.run.run s

theorem exec_pure {α} (a : α) (s : TState) : exec (pure a : TM α) s = (.ok a, s) := rfl

theorem exec_throw {α} (e : TErr) (s : TState) : exec (throw e : TM α) s = (.error e, s) := rfl

theorem exec_bind {α β} (x : TM α) (f : α → TM β) (s : TState) :
    exec (x >>= f) s = match exec x s with
      | (.ok a, s1) => exec (f a) s1
      | (.error e, s1) => (.error e, s1) := by
  simp only [exec, bind, ExceptT.bind, ExceptT.mk, ExceptT.bindCont, ExceptT.run, StateT.run, StateT.bind]
  cases h : x s with
  | mk r s1 => cases r <;> rfl

theorem exec_finallyDo {α} (body : TM α) (fin : TM Unit) (s : TState) :
    exec (finallyDo body fin) s = match exec body s with
      | (r, s1) => match exec fin s1 with
        | (.error e, s2) => (.error e, s2)
        | (.ok _, s2) => (r, s2) := rfl

theorem exec_get (s : TState) : exec (get : TM TState) s = (.ok s, s) := rfl
theorem exec_set (s' s : TState) : exec (set s' : TM Unit) s = (.ok (), s') := rfl
theorem exec_modify (f : TState → TState) (s : TState) : exec (modify f : TM Unit) s = (.ok (), f s) := rfl

theorem exec_tstart (n : TName) (s : TState) :
    exec (tstart n) s = if n ∈ s.running then (.error .timer, { s with log := s.log ++ [(true, n)] })
      else (.ok (), { running := n :: s.running, log := s.log ++ [(true, n)] }) := by
  simp only [tstart, exec_bind, exec_get, exec_set]
  split <;> rfl

theorem exec_tstop (n : TName) (s : TState) :
    exec (tstop n) s = if n ∈ s.running then (.ok (), { running := s.running.erase n, log := s.log ++ [(false, n)] })
      else (.error .timer, { s with log := s.log ++ [(false, n)] }) := by
  simp only [tstop, exec_bind, exec_get, exec_set]
  split <;> rfl

theorem exec_timed {α} (n : TName) (body : TM α) (s : TState) :
    exec (timed n body) s =
      if n ∈ s.running then (.error .timer, { s with log := s.log ++ [(true, n)] })
      else match exec body { running := n :: s.running, log := s.log ++ [(true, n)] } with
        | (r, s1) => match exec (tstop n) s1 with
          | (.error e, s2) => (.error e, s2)
          | (.ok _, s2) => (r, s2) := by
  rw [timed, exec_bind, exec_tstart]
  by_cases h : n ∈ s.running <;> simp only [h, if_true, if_false, exec_finallyDo]

/-- Started with exactly the timers `c` running, `x` ends with exactly `c` running and an outcome in `Q`. -/
def Runs {α} (c : Clock) (Q : Except TErr α → Prop) (x : TM α) : Prop :=
  ∀ s, s.running = c → (exec x s).2.running = c ∧ Q (exec x s).1

theorem runs_pure {α c} {Q : Except TErr α → Prop} {a : α} (h : Q (.ok a)) : Runs c Q (pure a) :=
  fun _ hs => ⟨hs, h⟩

theorem runs_throw {α c} {Q : Except TErr α → Prop} {e : TErr} (h : Q (.error e)) : Runs c Q (throw e) :=
  fun _ hs => ⟨hs, h⟩

theorem runs_failIf {c Q} {b : Bool} (ht : b = true → Q (.error .program)) (hf : b = false → Q (.ok ())) :
    Runs c Q (failIf b) := by
  cases b
  · exact runs_pure (hf rfl)
  · exact runs_throw (ht rfl)

theorem runs_seq {c} {Q : Except TErr Unit → Prop} {x y : TM Unit} (hx : Runs c Q x) (hy : Runs c Q y) :
    Runs c Q (do x; y) := by
  intro s hs
  obtain ⟨h1, h2⟩ := hx s hs
  rw [exec_bind]
  cases h : exec x s with
  | mk r s1 =>
    rw [h] at h1 h2
    cases r with
    | error e => exact ⟨h1, h2⟩
    | ok a => exact hy s1 h1

/-- `start n; try: body finally: stop n`: if `n` is running the `start` raises and nothing has changed; otherwise the
body runs with `n` added, leaves it running, and the `stop` takes it out again. -/
theorem runs_timed {α c} {Q : Except TErr α → Prop} {n : TName} {body : TM α}
    (hin : n ∈ c → Q (.error .timer)) (hb : n ∉ c → Runs (n :: c) Q body) : Runs c Q (timed n body) := by
  intro s hs
  subst hs
  rw [exec_timed]
  split
  · exact ⟨rfl, hin ‹_›⟩
  · have ⟨h1, h2⟩ := hb ‹_› { running := n :: s.running, log := s.log ++ [(true, n)] } rfl
    generalize exec body _ = q at h1 h2
    obtain ⟨r, s1⟩ := q
    simp only at h1
    simp only [exec_tstop, h1, List.mem_cons_self, if_true, List.erase_cons_head]
    exact ⟨trivial, h2⟩

theorem runs_frontend {c Q} (hok : Q (.ok ())) (htim : ∀ n, .output n ∈ c → Q (.error .timer)) :
    ∀ outs : List (String × Bool), (∀ o ∈ outs, o.2 = true → Q (.error .program)) → Runs c Q (frontend outs)
  | [], _ => runs_pure hok
  | (n, fails) :: rest, hp =>
    runs_seq (runs_timed (htim n) fun _ => runs_failIf (hp (n, fails) (by simp)) fun _ => hok)
      (runs_frontend hok htim rest fun o ho => hp o (by simp [ho]))

/-- a program that fails nowhere -/
def Prog.good (p : Prog) : Prop := p.importFails = false ∧ p.mainFails = false ∧ ∀ o ∈ p.outputs, o.2 = false

/-- **What a compilation can end with.**  It returns, or raises a `TimerError` (only when some timer was running before it),
or an exception of the program (only when the program fails somewhere); the running timers are those before it. -/
theorem runs_compileVia {c Q} (v : Bool) (p : Prog) (hok : Q (.ok ())) (htim : ∀ n, n ∈ c → Q (.error .timer))
    (hprog : ¬ p.good → Q (.error .program)) : Runs c Q (compileVia v p) := by
  have hfail : ∀ {c b}, (p.good → b = false) → Runs c Q (failIf b) := fun hb =>
    runs_failIf (fun h => hprog fun g => by simp [hb g] at h) fun _ => hok
  have hfront : ∀ {n : TName}, (∀ k, TName.output k ≠ n) → Runs (n :: c) Q (frontend p.outputs) := fun hn =>
    runs_frontend hok (fun k h => htim _ (by simpa [hn k] using h)) _ fun o ho h => hprog fun g => by simp [g.2.2 o ho] at h
  cases v
  · exact runs_timed (htim _) fun _ =>
      runs_seq (runs_timed (fun h => htim _ (by simpa using h)) fun _ => hfail (·.1))
        (runs_seq (hfail (·.2.1)) (hfront nofun))
  · exact runs_timed (htim _) fun _ => runs_seq (hfail (·.1)) (runs_seq (hfail (·.2.1)) (hfront nofun))

/-- **After any history the clock is where it was**: no compilation, successful or not, leaves a timer running
(`runs_compileVia` with nothing asked of the outcome). -/
theorem runHistory_running : ∀ (h : List (Bool × Prog)) (s : TState), (runHistory s h).2.running = s.running
  | [], _ => rfl
  | (v, p) :: rest, s => (runHistory_running rest _).trans
      (runs_compileVia (Q := fun _ => True) v p trivial (fun _ _ => trivial) (fun _ => trivial) s rfl).1

end NadaVerif.Runtime
