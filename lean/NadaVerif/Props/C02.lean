/-
C02 — scalar operators accept exactly the allowed type pairs and yield the ruled type.

The property is a statement about a finite table; it is proved *directly over the table
regenerated from the running code* (`Generated/ScalarTable.lean`, translator T1), and
separately the table is shown equal to the closed form `typeBin …` that the other layers use.
-/
import NadaVerif.Spec.C02
import NadaVerif.Lemmas.ScalarRules

namespace NadaVerif.C02
open NadaVerif NadaVerif.Generated

/-- Every cell of the regenerated table obeys the typing rules of C02 (and its outcome does not
depend on the provenance of the operands: a cell with two distinct outcomes is not OK). -/
theorem scalarTable_ok : scalarTables.all (·.all cellOK) = true := by decide +kernel

theorem scalarTable_complete :
    (scalarTables.flatten.map fun r => (r.1, r.2.1)) = allKeys := by
  -- the appends of `allKeys` nested to the right: a key then passes through one of them, not through up to four
  unfold allKeys
  simp only [List.append_assoc]
  decide +kernel

/-- Model tie: the hand-written closed form equals the regenerated table on every cell. -/
theorem scalarTable_eq_model :
    scalarTables.all (·.all fun r => eraseOut r.2.2 = some (modelOut r.1 r.2.1)) = true := by
  -- the same check with the row taken apart first: the operator name then reaches `modelOut` as a literal, and the kernel
  -- shares its comparisons with the names `modelOut` knows between the rows (evaluating the statement as it stands is slow)
  have : scalarTables.all (·.all fun (op, args, outs) => eraseOut outs = some (modelOut op args)) = true := by
    decide +kernel
  exact this

/-! Closed-form rules, for all operators and types (the rules as a reader would write them). -/

theorem typeBin_result (op : BinOp) (l r t : STy) (f : Bool) (h : typeBin op l r = .ok t f) :
    t.mode = Mode.max l.mode r.mode ∧
    t.base = (match op.cls with | .rel | .eqop | .logic => .bool | _ => l.base) ∧
    (f = true ↔ (l.mode = .const ∧ r.mode = .const)) := by
  obtain ⟨rfl, rfl⟩ := typeBin_ok h
  exact ⟨rfl, rfl, by rw [beq_iff_eq, Mode.max_eq_const]⟩

theorem typeBin_reject_mixed (op : BinOp) (l r : STy) (hc : op.cls ≠ .shift) (h : l.base ≠ r.base) :
    typeBin op l r = .reject := by
  unfold typeBin
  cases hc' : op.cls <;> simp_all

theorem ifElse_rules (c a b t : STy) (f : Bool) (h : typeIfElse c a b = .ok t f) :
    c.base = .bool ∧ c.mode ≠ .const ∧ a.base = b.base ∧ a.base ≠ .bool ∧ f = false ∧
    t = ⟨Mode.max c.mode (Mode.max a.mode b.mode), a.base⟩ := by
  unfold typeIfElse at h
  split at h <;> cases h
  obtain ⟨hcb, hab, hnb, hcm⟩ := ‹_ ∧ _›
  exact ⟨hcb, hcm, hab, hnb, rfl, rfl⟩

example : cellOK ("add", [⟨.sec, .int⟩, ⟨.pub, .int⟩], [.ok ⟨.sec, .int⟩ false "Addition" "SecretInteger"]) = true := by decide
example : cellOK ("lt", [⟨.sec, .int⟩, ⟨.sec, .int⟩], [.ok ⟨.pub, .bool⟩ false "LessThan" "Boolean"]) = false := by decide

end NadaVerif.C02
