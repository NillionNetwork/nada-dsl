/-
C08 — a compilation is independent of earlier traces and failures in the process.

In the model the compiler keeps no state between compilations (all four per-compilation tables
start empty, as the repaired code clears them), so what persists is the trace store: records of
earlier programs, of aborted commands (ids drawn, records stored before the exception), and the
literal-index table.  Proved here, for all stores:

* `compile_mono` — if the store returns, for every id the compilation of a program looks up, the
  record that program traced, then whatever *else* the store holds (earlier programs, partial
  effects of failed commands, later traces) does not change the emitted MIR in any way;
* `earlier_history_irrelevant` — the special case "program B traced after history A";
* `later_traces_irrelevant` — records stored under fresh ids afterwards do not disturb it either;
* nothing of the earlier program can appear: emitted tables hold only records reachable from the
  outputs (`C09.no_dead_ops`).
* `trace_shift_equivariant` / `after_any_history` — **the trace itself**: whatever state an earlier history left
  (counter `n`, any records, any literal table), tracing a program there goes exactly as tracing it in a fresh
  process under an injective renaming (`histRen`: every id shifted by `n`, every literal renamed to the index its key
  has in the later table), on top of the old records: the same commands are accepted and rejected with the same errors,
  the registers and open function brackets hold the shifted values, and every record the program stores is the renamed
  record (`shifted_lookup`).  Proved by a relational simulation of all 28 commands (`Lemmas/Shift.lean`); the one
  command that reads the store (`Array(value, size)`) needs that the ids in the registers are stored, which holds of
  every reachable machine (`trace_ok`).
* `compile_after_history` — **the MIR**: if the program compiles to `m` in a fresh process, then after any history it
  compiles to `m` renamed (`Lemmas/Rename.lean`: the compiler walk commutes with any injective renaming of ids and
  literal names — `compile_ren`, by induction over the traversal, the output list and the function worklist).
* `after_history_eq` — **successes and failures alike**: whatever the fresh compilation answers — a MIR, or an error other
  than "an id is missing" (duplicate input names, a record of the wrong kind, …) — the compilation after any history answers
  the same, renamed (`Lemmas/Mono.lean`: `compile_mono_definite`, monotonicity in the store of every compilation that neither
  misses an id nor runs out of fuel; `Lemmas/Fuel.lean`: the model's fuel never runs out, on any store);
  `compile_after_history` and `after_history_same_answer` are its two readings.
-/
import NadaVerif.Lemmas.Mono
import NadaVerif.Lemmas.Shift
import NadaVerif.Lemmas.Fuel
import NadaVerif.Lemmas.Tables
import NadaVerif.Props.C09
import NadaVerif.Lemmas.Helpers

namespace NadaVerif.C08
open NadaVerif NadaVerif.Lemmas

theorem compile_mono {st st' : St} (h : Extends st st') (hf : st.fuel ≤ st'.fuel)
    (hl : st.ops.length ≤ st'.ops.length) (outs : List OutDecl) (m : MirProg)
    (hc : compile st outs = .ok m) : compile st' outs = .ok m :=
  Lemmas.compile_mono h hf hl outs m hc

theorem lookup_append (opsB opsA : List (Id × AstOp)) (c c' : Nat) (l l' : List String) :
    Extends ⟨c, opsB, l⟩ ⟨c', opsB ++ opsA, l'⟩ :=
  .of_append rfl

theorem fuel_append (opsB opsA : List (Id × AstOp)) (c c' : Nat) (l l' : List String) :
    (St.mk c opsB l).fuel ≤ (St.mk c' (opsB ++ opsA) l').fuel :=
  fuel_le_of_append rfl

/-- Program B compiles to the same MIR whether or not the records of an earlier history A (complete
programs, aborted traces, whatever) are still in the store, and whatever the counter and the
literal table have become. -/
theorem earlier_history_irrelevant (opsB opsA : List (Id × AstOp)) (c c' : Nat) (l l' : List String)
    (outs : List OutDecl) (m : MirProg) (hc : compile ⟨c, opsB, l⟩ outs = .ok m) :
    compile ⟨c', opsB ++ opsA, l'⟩ outs = .ok m :=
  compile_mono (lookup_append opsB opsA c c' l l') (fuel_append opsB opsA c c' l l')
    (by simp) outs m hc

/-- Records stored later under ids the program does not use do not change its MIR. -/
theorem later_traces_irrelevant (st : St) (k : Id) (op : AstOp) (c : Nat) (l : List String)
    (hfresh : st.lookup k = none) (outs : List OutDecl) (m : MirProg) (hc : compile st outs = .ok m) :
    compile ⟨c, (k, op) :: st.ops, l⟩ outs = .ok m := by
  apply compile_mono _ _ _ outs m hc
  · intro k' op' h
    rw [lookup_put (s0 := st) rfl, if_neg fun e => by rw [e, hfresh] at h; cases h]
    exact h
  · simp only [St.fuel, List.map_cons, List.sum_cons]; omega
  · simp

/-- Nothing belonging to an earlier program appears: every emitted record is reachable from the
outputs of the program being compiled. -/
theorem only_reachable_emitted (st : St) (outs : List OutDecl) (m : MirProg) (h : compile st outs = .ok m) :
    (∀ e ∈ m.operations, Reach st (outs.map (·.root)) e.1) ∧
    (∀ f ∈ m.functions, ∀ e ∈ f.ops, Reach st [f.returnOp] e.1) :=
  C09.no_dead_ops st outs m h

/-- **Nothing the later program needs is missing**, whatever was traced, compiled or failed before it in the
process: after any history `cs` continued by any program `more` (rejected commands and aborted function bodies
included), compiling values the registers hold never looks up an id the store lacks. -/
theorem later_program_nothing_missing (cs more : List Cmd) (outs : List OutDecl)
    (ho : C01.OutsFromRegs (runCmds (runCmds {} cs).1 more).1.regs outs) :
    compile (runCmds (runCmds {} cs).1 more).1.st outs ≠ .error .key :=
  C01.history_compile_no_missing cs more outs ho

/-- the renaming of operation ids and literal names that the history `⟨n, hist, lits⟩` induces on the program `cs`:
ids are shifted by `n`; a literal goes to the name its key (value and type) has in the later process's table -/
def histRen (n : Nat) (hist : List (Id × AstOp)) (lits : List String) (cs : List Cmd) : Ren :=
  shiftRen n (runCmds {} cs).1.st.lits (runCmds { st := ⟨n, hist, lits⟩ } cs).1.st.lits

theorem related_after (n : Nat) (hist : List (Id × AstOp)) (lits : List String) (cs : List Cmd) :
    MRel n hist (runCmds {} cs).1 (runCmds { st := ⟨n, hist, lits⟩ } cs).1 ∧
    (runCmds {} cs).2 = (runCmds { st := ⟨n, hist, lits⟩ } cs).2 := by
  have h0 : MRel n hist ({} : Mach) { st := ⟨n, hist, lits⟩ } :=
    ⟨⟨(Nat.zero_add n).symm, rfl, .nil, (fun _ h => nomatch h), (fun _ h => nomatch h)⟩, rfl, rfl⟩
  exact runCmds_sim cs h0 machOK_init

/-- **The trace of a program does not depend on what the process traced before**, up to the renaming of ids and
literal names: from the state `⟨n, hist, lits⟩` any history left — with no assumption on it at all — the same commands
are accepted and rejected, with the same errors; the counter, the registers, the open function brackets and the records
stored are those of a fresh process renamed (ids shifted by `n`, literals renamed by key), the old records lying behind
them; the renaming is injective. -/
theorem trace_shift_equivariant (n : Nat) (hist : List (Id × AstOp)) (lits : List String) (cs : List Cmd) :
    (runCmds { st := ⟨n, hist, lits⟩ } cs).2 = (runCmds {} cs).2 ∧
    (runCmds { st := ⟨n, hist, lits⟩ } cs).1.st.counter = (runCmds {} cs).1.st.counter + n ∧
    (runCmds { st := ⟨n, hist, lits⟩ } cs).1.st.ops =
      (runCmds {} cs).1.st.ops.map (renE (histRen n hist lits cs)) ++ hist ∧
    (runCmds { st := ⟨n, hist, lits⟩ } cs).1.regs = shiftRegs n (runCmds {} cs).1.regs ∧
    (runCmds { st := ⟨n, hist, lits⟩ } cs).1.frames = shiftFrames n (runCmds {} cs).1.frames ∧
    Ren.Inj (histRen n hist lits cs) := by
  have h := related_after n hist lits cs
  exact ⟨h.2.symm, h.1.st.counter, h.1.st.ops, h.1.regs, h.1.frames, shiftRen_inj _ _ h.1.st.nodup h.1.st.sub⟩

/-- the special case the property names: the earlier history is itself a trace — complete programs, rejected
commands, aborted function bodies, whatever `cs0` is -/
theorem after_any_history (cs0 cs : List Cmd) :
    let h := (runCmds {} cs0).1.st
    (runCmds { st := h } cs).2 = (runCmds {} cs).2 ∧
    (runCmds { st := h } cs).1.st.ops =
      (runCmds {} cs).1.st.ops.map (renE (histRen h.counter h.ops h.lits cs)) ++ h.ops ∧
    (runCmds { st := h } cs).1.regs = shiftRegs h.counter (runCmds {} cs).1.regs := by
  intro h
  obtain ⟨herr, -, hops, hregs, -⟩ := trace_shift_equivariant h.counter h.ops h.lits cs
  exact ⟨herr, hops, hregs⟩

/-- every record the later program stored is found under the shifted id, renamed — the old records never shadow it -/
theorem shifted_lookup (n : Nat) (hist : List (Id × AstOp)) (lits : List String) (cs : List Cmd) (c : Id) (op : AstOp)
    (h : (runCmds {} cs).1.st.lookup c = some op) :
    (runCmds { st := ⟨n, hist, lits⟩ } cs).1.st.lookup (c + n) = some (op.ren (histRen n hist lits cs)) :=
  lookup_rel (related_after n hist lits cs).1.st c op h

/-- on a larger store a compilation answers the same, a MIR or an error, unless it stopped at a missing id
(`compile_mono_definite`; the model's fuel never runs out: `compile_ne_unsupported`) -/
theorem compile_mono_eq {st st' : St} (h : Extends st st') (hf : st.fuel ≤ st'.fuel) (hl : st.ops.length ≤ st'.ops.length)
    (outs : List OutDecl) (hk : compile st outs ≠ .error .key) : compile st' outs = compile st outs :=
  compile_mono_definite h hf hl outs fun _ he => ⟨fun x => hk (x ▸ he), fun x => compile_ne_unsupported _ outs (x ▸ he)⟩

/-- **Whatever the fresh compilation answers — a MIR or an error other than "an id is missing" — the compilation after any
history answers the same, renamed**: tracing is equivariant (`trace_shift_equivariant`), the compiler walk commutes with an
injective renaming (`compile_ren`), and the records the history left behind are never looked at (`compile_mono_eq`). -/
theorem after_history_eq (n : Nat) (hist : List (Id × AstOp)) (lits : List String) (cs : List Cmd) (outs : List OutDecl)
    (hk : compile (runCmds {} cs).1.st outs ≠ .error .key) :
    compile (runCmds { st := ⟨n, hist, lits⟩ } cs).1.st (outs.map (OutDecl.ren (histRen n hist lits cs))) =
      (compile (runCmds {} cs).1.st outs).map (MirProg.ren (histRen n hist lits cs)) := by
  obtain ⟨_, _, hops, _, _, hinj⟩ := trace_shift_equivariant n hist lits cs
  have h1 := compile_ren hinj (runCmds {} cs).1.st outs
  -- the later store is the fresh one renamed, with `hist` behind it
  refine (compile_mono_eq (st := (runCmds {} cs).1.st.ren _) (.of_append hops) (fuel_le_of_append hops) ?_ _ fun h => ?_).trans h1
  · simp [hops, St.ren]
  · rw [h1] at h
    cases hc : compile (runCmds {} cs).1.st outs <;> rw [hc] at h <;> cases h
    exact hk hc

/-- **The MIR of a program compiled after any history is the MIR of the program compiled in a fresh process, up to
the renaming of operation ids and literal names** (`MirProg.ren`: every table, the function list, the inputs, the
literal table and the outputs renamed; parties untouched). -/
theorem compile_after_history (n : Nat) (hist : List (Id × AstOp)) (lits : List String) (cs : List Cmd)
    (outs : List OutDecl) (m : MirProg) (hc : compile (runCmds {} cs).1.st outs = .ok m) :
    compile (runCmds { st := ⟨n, hist, lits⟩ } cs).1.st (outs.map (OutDecl.ren (histRen n hist lits cs))) =
      .ok (m.ren (histRen n hist lits cs)) := by
  rw [after_history_eq n hist lits cs outs (by rw [hc]; nofun), hc]; rfl

/-- **Whatever the fresh compilation answers, the compilation after any history answers the same, renamed** — for outputs
declared on the program's own registers an id is never missing (`C01.trace_compile_no_missing`). -/
theorem after_history_same_answer (n : Nat) (hist : List (Id × AstOp)) (lits : List String) (cs : List Cmd)
    (outs : List OutDecl) (ho : C01.OutsFromRegs (runCmds {} cs).1.regs outs) :
    compile (runCmds { st := ⟨n, hist, lits⟩ } cs).1.st (outs.map (OutDecl.ren (histRen n hist lits cs))) =
      (compile (runCmds {} cs).1.st outs).map (MirProg.ren (histRen n hist lits cs)) :=
  after_history_eq n hist lits cs outs (C01.trace_compile_no_missing cs outs ho)

/-- the outputs of the later compilation are the same registers: an output declared on register `r` of the fresh run
is declared, after the history, on the same register, whose value carries the shifted id -/
theorem outputs_follow_registers (n : Nat) (hist : List (Id × AstOp)) (lits : List String) (cs : List Cmd) (o : OutDecl) :
    (o.ren (histRen n hist lits cs)).root = o.root + n ∧ (o.ren (histRen n hist lits cs)).name = o.name ∧
    (o.ren (histRen n hist lits cs)).party = o.party := ⟨rfl, rfl, rfl⟩

/-- Non-vacuity: a store with an earlier program's records (ids 1–3) behind program B (ids 4–6). -/
def opsB : List (Id × AstOp) :=
  [(6, .binary "Addition" 4 5 (.scalar "SecretInteger")),
   (5, .input "b" "P" "" (.scalar "SecretInteger")), (4, .input "a" "P" "" (.scalar "SecretInteger"))]
def opsA : List (Id × AstOp) :=
  [(3, .binary "Multiplication" 1 2 (.scalar "Integer")),
   (2, .input "y" "Q" "" (.scalar "Integer")), (1, .input "x" "Q" "" (.scalar "Integer"))]
example : (compile ⟨6, opsB ++ opsA, []⟩ [OutDecl.mk 6 "o" "P"]).toOption =
      (compile ⟨6, opsB, []⟩ [OutDecl.mk 6 "o" "P"]).toOption ∧
    (compile ⟨6, opsB, []⟩ [OutDecl.mk 6 "o" "P"]).toOption.isSome = true := by decide

/-- Non-vacuity of the shift theorem: an earlier program left 3 records; the later program (two inputs, a sum, a
literal, a rejected command) stores the same records under ids shifted by 3, the literal under another name. -/
def laterProg : List Cmd :=
  [.party "P", .inputObj "a" "" 0, .wrap ⟨.sec, .int⟩ 1, .lit .int (.int 7), .bin .add 2 3, .bin .add 0 2]
example :
    (runCmds {} laterProg).2 = [none, none, none, none, none, some .unsupported] ∧
    (runCmds { st := ⟨3, opsA, ["1Integer", "7Integer"]⟩ } laterProg).2 = (runCmds {} laterProg).2 ∧
    (runCmds {} laterProg).1.st.lookup 2 = some (.literal "7" 0 (.scalar "Integer")) ∧
    (runCmds { st := ⟨3, opsA, ["1Integer", "7Integer"]⟩ } laterProg).1.st.lookup 5 = some (.literal "7" 1 (.scalar "Integer")) ∧
    (runCmds { st := ⟨3, opsA, ["1Integer", "7Integer"]⟩ } laterProg).1.st.lookup 6 =
      some (.binary "Addition" 4 5 (.scalar "SecretInteger")) := by
  decide +kernel

/-- **The helper modules a program runs against are its own and current.**  After any history of compilations (programs of any
directories, importing any helpers) and any edits of the files in between, every helper module loaded while the next program is
compiled was imported from that program's directory, from the file as it is on disk now (`Runtime/Helpers.lean`: the registry of
`compile._program_imports` as a state machine; the three repairs of the campaign — helpers of another directory, a changed helper,
a helper that imports a changed one — are what makes `enter` establish this). -/
theorem helpers_current_after_history (hist : List Runtime.Step) (s : Runtime.Step) :
    Runtime.Fresh s.disk s.dir (Runtime.compileFrom s.disk s.dir s.names (Runtime.runSteps [] hist)).1 :=
  Runtime.compileFrom_fresh s.disk s.dir s.names _

/-- … and while nothing changes nothing is loaded again: the same directory, every helper loaded and current ⇒ no helper file is executed. -/
theorem helpers_reused_when_unchanged (disk : Runtime.Disk) (dir : String) (names : List String) (r : Runtime.Registry)
    (hf : Runtime.Fresh disk dir r) (hl : ∀ n ∈ names, r.any (·.name == n) = true) :
    Runtime.compileFrom disk dir names r = (r, []) :=
  Runtime.compileFrom_noexec disk dir names r hf hl

end NadaVerif.C08
