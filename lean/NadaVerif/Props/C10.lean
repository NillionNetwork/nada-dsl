/-
C10 — the program's inputs, outputs and parties are reproduced exactly.

Theorems about the compile model for every store and output list: outputs appear in declaration
order with their name, party and designated operation; a second, different input with an already
used name is rejected (whatever parties own the two); every party of an output is listed.
-/
import NadaVerif.Lemmas.AccExact

namespace NadaVerif.C10
open NadaVerif NadaVerif.Spec NadaVerif.Lemmas

/-- Outputs are emitted in order, each with the declared name, party and operation. -/
theorem outputs_in_order (st : St) :
    ∀ (outs : List OutDecl) (table functions : Table) (mouts : List MirOutput) (acc : CAcc)
      (table' functions' : Table) (mouts' : List MirOutput) (acc' : CAcc),
    compileOutputs st outs table functions mouts acc = .ok (table', functions', mouts', acc') →
    mouts'.map (fun o => (o.opId, o.name, o.party)) =
      mouts.map (fun o => (o.opId, o.name, o.party)) ++ outs.map (fun o => (o.root, o.name, o.party)) := by
  intro outs table functions mouts acc table' functions' mouts' acc' h
  -- invariant: what is emitted, followed by what is still to come, is the same list throughout
  have := compileOutputs_inv (fun os _ _ mo _ => mo.map (fun o => (o.opId, o.name, o.party)) ++
      os.map (fun o => (o.root, o.name, o.party)) = mouts.map (fun o => (o.opId, o.name, o.party)) ++
      outs.map (fun o => (o.root, o.name, o.party))) (fun _ _ _ _ _ _ _ _ _ _ _ _ h => by simpa using h) h rfl
  simpa using this

theorem compile_outputs_exact (st : St) (outs : List OutDecl) (m : MirProg) (h : compile st outs = .ok m) :
    m.outputs.map (fun o => (o.opId, o.name, o.party)) = outs.map (fun o => (o.root, o.name, o.party)) := by
  obtain ⟨t, fs, mo, a, fns, a2, hco, hef, rfl⟩ := compile_ok h
  simpa using outputs_in_order st outs [] [] [] {} _ _ _ _ hco

/-- `add_input_to_map`: a second, different input object under a name that is already in use is
rejected — whichever parties own the two inputs. -/
theorem dup_input_rejected (acc : CAcc) (i : MirInput) (p : String) (is : List MirInput) (j : MirInput)
    (hb : (p, is) ∈ insertParty i.party acc.inputs) (hj : j ∈ is) (hn : j.name = i.name) (hid : j.id ≠ i.id) :
    addInput acc i = .error .compiler := by
  simp only [addInput]
  rw [if_pos]
  simp only [List.any_eq_true]
  exact ⟨(p, is), hb, j, hj, by simp [hn, hid]⟩

/-- Accepting an input lists its party. -/
theorem addInput_lists_party (acc acc' : CAcc) (i : MirInput) (h : addInput acc i = .ok acc') :
    i.party ∈ acc'.parties ∧ ∀ p ∈ acc.parties, p ∈ acc'.parties := by
  rw [(addInput_ok h).1]
  exact ⟨(mem_insertSorted _ _ _).2 (.inl rfl), fun p hp => (mem_insertSorted _ _ _).2 (.inr hp)⟩

/-- Every input entry of the MIR carries the name, owning party, type and documentation string of the traced input
it stands for (it *is* the store's record of that id); every input an emitted operation refers to is listed, and no
name is listed twice. -/
theorem inputs_as_declared (st : St) (outs : List OutDecl) (m : MirProg) (h : compile st outs = .ok m) :
    (∀ i ∈ m.inputs, st.lookup i.id = some (.input i.name i.party i.doc i.ty)) ∧
    (m.inputs.map (·.name)).Nodup ∧
    ∀ t ∈ allTables m, ∀ e ∈ t, ∀ n p d ty, e.2 = .input n p d ty → (⟨n, ty, p, d, e.1⟩ : MirInput) ∈ m.inputs := by
  have a := compile_acc h
  exact ⟨a.recs, a.names, fun t ht e he n p d ty heq => ((a.refs t ht e he).1 n p d ty heq).1⟩

/-- Every party named by a listed input or by an output is listed. -/
theorem parties_cover (st : St) (outs : List OutDecl) (m : MirProg) (h : compile st outs = .ok m) :
    (∀ i ∈ m.inputs, i.party ∈ m.parties) ∧ (∀ o ∈ m.outputs, o.party ∈ m.parties) :=
  ⟨(compile_acc h).parties, (compile_acc h).outParties⟩

example : addInput { inputs := [("P", [⟨"x", .scalar "SecretInteger", "P", "", 1⟩])], parties := ["P"] }
    ⟨"x", .scalar "SecretInteger", "Q", "", 2⟩ = .error .compiler := by rfl

end NadaVerif.C10
