/-
C17 — the audit report reproduces the source and shows the inferred types (partial).

Proved for the model of `richreports.report` (`Audit/Report.lean`), for every source text and
**every** sequence of delimiter pushes (hence every sequence of `enrich` calls with any ranges,
with or without whitespace skipping and intermediate lines): removing the inserted markup from the
rendered report gives back the source exactly, line for line.
Decided by the oracle on every real report (not proved): proper nesting of the markup, the
displayed type of every audited node, display of every restriction, marking of skipped lines.
-/
import NadaVerif.Audit.Report

namespace NadaVerif.C17
open NadaVerif.Audit

/-- what is left of a report once the markup is gone: the characters of its cells, line by line -/
def text (r : Report) : List (List Char) := r.map fun l => l.filterMap (·.c)

theorem erase_append (a b : List Tok) : erase (a ++ b) = erase a ++ erase b := List.filter_append ..

theorem erase_delims (ds : List String) : erase (ds.map Tok.delim) = [] :=
  List.filter_eq_nil_iff.mpr (by simp)

theorem erase_renderLine : ∀ l : List Cell, erase (renderLine l) = (l.filterMap (·.c)).map .ch
  | [] => rfl
  | x :: xs => by
    rw [renderLine, List.flatMap_cons, erase_append, ← renderLine, erase_renderLine xs, renderCell,
      erase_append, erase_append, erase_delims, erase_delims]
    cases h : x.c <;> simp [erase, h]

/-- **Erasing the markup of any report leaves the characters of its cells**, whatever is on their stacks. -/
theorem erase_render : ∀ r : Report, erase (render r) = plain (text r)
  | [] => rfl
  | [l] => erase_renderLine l
  | l :: a :: as => by
    show erase (renderLine l ++ .newline :: render (a :: as)) = _
    rw [erase_append, erase_renderLine]
    exact congrArg (_ ++ .newline :: ·) (erase_render (a :: as))

theorem map_modifyAt {α β} (g : α → β) (f : α → α) (h : ∀ x, g (f x) = g x) :
    ∀ (n : Nat) (l : List α), (modifyAt f n l).map g = l.map g
  | 0, [] => rfl
  | _ + 1, [] => rfl
  | 0, x :: xs => congrArg (· :: xs.map g) (h x)
  | n + 1, x :: xs => congrArg (g x :: ·) (map_modifyAt g f h n xs)

theorem pushCell_c (p : Push) (x : Cell) : (pushCell p x).c = x.c := by
  unfold pushCell; split <;> rfl

theorem text_applyPush (r : Report) (p : Push) : text (applyPush r p) = text r :=
  map_modifyAt _ _ (fun l => by
    have := congrArg (List.filterMap id) (map_modifyAt (·.c) _ (pushCell_c p) p.col l)
    simpa [List.filterMap_map] using this) _ _

theorem text_mkReport (lines : List (List Char)) : text (mkReport lines) = lines := by
  have : ∀ l : List Char, (mkLine l).filterMap (·.c) = l := fun l => by
    simp [mkLine, List.filterMap_map, Function.comp_def]
  simp [text, mkReport, Function.comp_def, this]

theorem erase_render_push (r : Report) (p : Push) : erase (render (applyPush r p)) = erase (render r) := by
  rw [erase_render, erase_render, text_applyPush]

/-- the freshly built report renders, after erasure, to the source text -/
theorem erase_render_mk (lines : List (List Char)) : erase (render (mkReport lines)) = plain lines := by
  rw [erase_render, text_mkReport]

/-- **Text preservation**: for every source and every sequence of delimiter pushes, removing the
inserted markup from the rendered report gives back the source, line for line. -/
theorem render_erase (lines : List (List Char)) (ps : List Push) :
    erase (render (ps.foldl applyPush (mkReport lines))) = plain lines :=
  List.foldlRecOn (motive := fun r => erase (render r) = plain lines) ps _ (erase_render_mk lines)
    fun r h p _ => (erase_render_push r p).trans h

/-- the number of lines is preserved -/
theorem render_lines (lines : List (List Char)) (ps : List Push) :
    (erase (render (ps.foldl applyPush (mkReport lines)))).count .newline = (plain lines).count .newline := by
  rw [render_erase]

example : erase (render (applyPush (mkReport ["ab".toList]) ⟨0, 1, false, "<b>"⟩)) = [.ch 'a', .ch 'b'] := by decide

end NadaVerif.C17
