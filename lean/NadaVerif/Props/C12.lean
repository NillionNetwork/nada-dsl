/-
C12 — collection operations enforce their preconditions and size/element rules.

Theorems about `exec` (the layer-B model of the DSL operations), for all register files, all
states, all sizes (`Option Int`), all element types and all indices / keys.
-/
import NadaVerif.Lemmas.Run

namespace NadaVerif.C12
open NadaVerif

variable (regs : List RVal) (frames : List Frame) (s : St)

/-- Zipping arrays of different sizes is rejected and changes nothing. -/
theorem zip_size_mismatch_rejected (a b : Reg) (ea eb : Elem) (na nb : Option Int) (ca cb : Id)
    (ha : regs[a]? = some (.val (.array ea na (some ca))))
    (hb : regs[b]? = some (.val (.array eb nb (some cb)))) (hne : na ≠ nb) :
    (exec regs frames (.zip a b)).run.run s = (.error .incompatible, s) := by
  simp_exec [ha, hb, hne]

/-- Inner product of arrays of different sizes is rejected and changes nothing. -/
theorem inner_size_mismatch_rejected (a b : Reg) (ea eb : Elem) (na nb : Option Int) (ca cb : Id)
    (ha : regs[a]? = some (.val (.array ea na (some ca))))
    (hb : regs[b]? = some (.val (.array eb nb (some cb)))) (hne : na ≠ nb) :
    (exec regs frames (.innerProduct a b)).run.run s = (.error .incompatible, s) := by
  simp_exec [ha, hb, hne]

/-- the MIR names that `inner_product` takes for integers are those of the numeric classes -/
theorem isIntegerTy_mirName (t : STy) : isIntegerTy (.scalar t.mirName) = t.base.isNumeric := by
  obtain ⟨m, b⟩ := t; cases m <;> cases b <;> decide

/-- Inner product over non-integer elements (here: any scalar element class whose MIR name is not
an integer type, on either side) is rejected and changes nothing. -/
theorem inner_nonint_rejected (a b : Reg) (ta tb : STy) (n : Option Int) (ca cb : Id)
    (ha : regs[a]? = some (.val (.array (.cls ta) n (some ca))))
    (hb : regs[b]? = some (.val (.array (.cls tb) n (some cb))))
    (hni : ta.base = .bool ∨ tb.base = .bool) :
    (exec regs frames (.innerProduct a b)).run.run s = (.error .invalidType, s) := by
  simp_exec [ha, hb, Elem.innerType, isIntegerTy_mirName]
  -- what remains: the integer test
  rw [if_pos]
  rcases hni with h | h <;> simp [h, Base.isNumeric]

/-- Building an array from no values is rejected and changes nothing. -/
theorem arrayNew_empty_rejected :
    (exec regs frames (.arrayNew [])).run.run s = (.error .value, s) := by
  simp_exec [List.mapM_nil]

/-- Building an array from values of two different scalar classes is rejected, nothing changes. -/
theorem arrayNew_mixed_rejected (x y : Reg) (tx ty : STy) (cx cy : Option Id) (lx ly : Option LitVal)
    (hx : regs[x]? = some (.val (.scalar tx cx lx))) (hy : regs[y]? = some (.val (.scalar ty cy ly)))
    (hne : tx ≠ ty) :
    (exec regs frames (.arrayNew [x, y])).run.run s = (.error .T, s) := by
  simp_exec [hx, hy, List.mapM_cons, List.mapM_nil, Val.toMir]
  -- what remains: the test that every value is of the class of the first
  rw [if_pos]
  simp [sameClass, hne]

/-- Indexing an n-tuple at a position that does not exist is rejected and changes nothing. -/
theorem ntupleGet_out_of_range_rejected (r : Reg) (vs : Vals) (src : Id) (i : Int)
    (hr : regs[r]? = some (.val (.ntuple vs (some src))))
    (hout : i ≥ (vs.toList.length : Int) ∨ i < -(vs.toList.length : Int)) :
    (exec regs frames (.ntupleGet r i)).run.run s = (.error .index, s) := by
  simp_exec [hr]
  -- what remains: the range test of the index counted from the end
  rw [if_pos]
  split <;> omega

/-- Reading an undeclared object field is rejected and changes nothing. -/
theorem objectGet_missing_rejected (r : Reg) (fs : VFields) (src : Id) (key : String)
    (hr : regs[r]? = some (.val (.object fs (some src))))
    (hres : key ∉ reservedKeys) (hmiss : fs.toList.find? (·.1 == key) = none) :
    (exec regs frames (.objectGet r key)).run.run s = (.error .T, s) := by
  simp_exec [hr, hres, hmiss]

/-- An accepted n-tuple index is recorded as a position `0 ≤ j < n` (also for negative `i`). -/
theorem ntupleGet_index_in_range (r : Reg) (vs : Vals) (src : Id) (i : Int) (t : STy) (c : Option Id)
    (hr : regs[r]? = some (.val (.ntuple vs (some src))))
    (hin : -(vs.toList.length : Int) ≤ i ∧ i < (vs.toList.length : Int))
    (hm : vs.toList[(if i < 0 then i + (vs.toList.length : Int) else i).toNat]? = some (.scalar t c none))
    (hnc : t.mode ≠ .const) :
    ∃ j : Int, 0 ≤ j ∧ j < (vs.toList.length : Int) ∧
      (exec regs frames (.ntupleGet r i)).run.run s =
        (.ok ([.val (.scalar t (some (s.counter + 1)) none)], frames),
         { s with counter := s.counter + 1,
                  ops := (s.counter + 1, .ntupleAcc j src (.scalar t.mirName)) :: s.ops }) := by
  refine ⟨if i < 0 then i + (vs.toList.length : Int) else i, by split <;> omega, by split <;> omega, ?_⟩
  simp_exec [hr, hm, genAccessor, hnc]
  rw [if_neg]
  split <;> omega

/-- `zip` pairs the element types and keeps the size. -/
theorem zip_type (a b : Reg) (ea eb : Elem) (n : Option Int) (ca cb : Id) (ty : MTy)
    (ha : regs[a]? = some (.val (.array ea n (some ca))))
    (hb : regs[b]? = some (.val (.array eb n (some cb))))
    (hty : (Val.array (.inst (.tuple ea eb none)) n (some (s.counter + 1))).toMir = .ok ty) :
    (exec regs frames (.zip a b)).run.run s =
      (.ok ([.val (.array (.inst (.tuple ea eb none)) n (some (s.counter + 1)))], frames),
       { s with counter := s.counter + 1, ops := (s.counter + 1, .binary "Zip" ca cb ty) :: s.ops }) := by
  simp_exec [ha, hb, hty]

/-- the MIR type `zip` records: `Array[Tuple[left element, right element]]` of the common size -/
theorem zip_mir_type (ea eb : Elem) (n : Option Int) (c : Option Id) (tl tr : MTy)
    (hl : ea.sideType = .ok tl) (hr : eb.sideType = .ok tr) :
    (Val.array (.inst (.tuple ea eb none)) n c).toMir = .ok (.array (.tuple tl tr) (sizeOfArray n)) := by
  simp [Val.toMir, Elem.innerType, hl, hr, bind, Except.bind]

/-- `unzip` splits the element types back in the same order and keeps the size on both sides. -/
theorem unzip_mir_type (l r : Elem) (n : Option Int) (c : Option Id) (tl tr : MTy)
    (hl : l.asInstanceToMir = .ok tl) (hr : r.asInstanceToMir = .ok tr) :
    (Val.tuple (.arrayType l n) (.arrayType r n) c).toMir =
      .ok (.tuple (.array tl (sizeOfArrayType n)) (.array tr (sizeOfArrayType n))) := by
  simp [Val.toMir, Elem.sideType, hl, hr, bind, Except.bind]

/-- `map` keeps the size and takes the element type from the function's return type. -/
theorem map_type (a f : Reg) (e : Elem) (n : Option Int) (ca fid : Id) (ret : STy) (np : List String)
    (ha : regs[a]? = some (.val (.array e n (some ca)))) (hf : regs[f]? = some (.fn fid ret np)) :
    (exec regs frames (.map a f)).run.run s =
      (.ok ([.val (.array (.cls ret) n (some (s.counter + 1)))], frames),
       { s with counter := s.counter + 1,
                ops := (s.counter + 1, .map ca fid (.array (.scalar ret.mirName) (sizeOfArray n))) :: s.ops }) := by
  simp_exec [ha, hf, Val.toMir, Elem.innerType]

/-- `Array.new` of two values of one scalar class counts its elements. -/
theorem arrayNew_type (x y : Reg) (t : STy) (cx cy : Id) (lx ly : Option LitVal)
    (hx : regs[x]? = some (.val (.scalar t (some cx) lx))) (hy : regs[y]? = some (.val (.scalar t (some cy) ly))) :
    (exec regs frames (.arrayNew [x, y])).run.run s =
      (.ok ([.val (.array (.inst (.scalar t (some cx) lx)) (some 2) (some (s.counter + 1)))], frames),
       { s with counter := s.counter + 1,
                ops := (s.counter + 1, .new "ArrayNew" [cx, cy] (.array (.scalar t.mirName) (.n 2))) :: s.ops }) := by
  simp_exec [hx, hy, List.mapM_cons, List.mapM_nil, Val.toMir, Elem.innerType, childIds, childOf, Val.child]
  -- what remains: the test that both values are of one class, and the size as `to_mir` writes it
  simp [sameClass, sizeOfArray]

end NadaVerif.C12
