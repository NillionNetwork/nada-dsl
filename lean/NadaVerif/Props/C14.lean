/-
C14 — strict checker is sound: inferred static types equal the types at run time (partial).

Over the tables regenerated from the running checker and abstract interpreter (T5): for every
operator application (+, -, *, comparisons, unary plus and minus, if_else) over every combination of Nada
classes, if the checker infers a class then abstract execution of that application yields exactly
that class (`checker_tables_sound`), and never raises when the checker reports no error
(`checker_tables_progress`).  Whole-program preservation / progress (assignments, loops, lists,
helper functions) is decided by the instrumented run of generated programs: every expression's
inferred type is compared with the class of the value bound at that point under abstract execution.
-/
import NadaVerif.Props.C15

namespace NadaVerif.C14
open NadaVerif.C15 NadaVerif.Generated

theorem checker_tables_sound : checkerTable.all checkerCellSound = true := by
  -- as `C15.abstract_accepts_when_real`
  delta checkerCellSound
  rw [lookupAbs_eq]
  decide +kernel

/-- a cell that is sound, and whose class is not "reject", makes progress -/
theorem progress_of_sound (r : String × List String × String) (h : checkerCellSound r = true)
    (hr : r.2.2 ≠ "reject") : checkerCellProgress r = true := by
  obtain ⟨op, args, t⟩ := r
  simp only [checkerCellSound, checkerCellProgress] at h ⊢
  split <;> try rfl
  split <;> try rfl
  rw [if_neg ‹_›, if_neg ‹_›] at h
  simp_all

theorem checker_tables_progress : checkerTable.all checkerCellProgress = true := by
  have hs := checker_tables_sound
  have hr : checkerTable.all (·.2.2 ≠ "reject") = true := by decide +kernel
  rw [List.all_eq_true] at hs hr ⊢
  exact fun r m => progress_of_sound r (hs r m) (by simpa using hr r m)

/-- the table is not vacuous: the checker infers a class on the well-typed integer cells -/
theorem checker_table_covers :
    (["add", "sub", "mul"].all fun op => ["Integer", "PublicInteger", "SecretInteger"].all fun a =>
      ["Integer", "PublicInteger", "SecretInteger"].all fun b =>
        (checkerTable.find? (fun r => r.1 = op ∧ r.2.1 = [a, b])).map (·.2.2) = lookupAbs op [a, b]) = true := by
  rw [lookupAbs_eq]
  decide +kernel

example : checkerCellSound ("ifElse", ["SecretBoolean", "PublicInteger", "PublicInteger"], "PublicInteger") = false := by
  decide +kernel

end NadaVerif.C14
