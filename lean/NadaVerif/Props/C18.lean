/-
C18 — the audited signature agrees with the compiled program's interface.

For **every** straight-line program of the common subset (any length, any number of parties, inputs
and outputs, re-wrapped and never-wrapped inputs, duplicate names included) that both
interpreters of `Audit/Signature.lean` accept:

* `outputs_agree` — the outputs are the same, in the same order: name, receiving party, and the
  class of the value (hence its secrecy; the MIR type name is that class with `Public` erased);
* `mir_inputs_in_signature` / `mir_parties_in_signature` — every input / party of the MIR interface
  occurs in the signature with the same name, owning party and type;
* `extra_inputs_exact` / `extra_parties_exact` — the inputs (parties) the signature lists beyond
  those are exactly the ones no output depends on (is delivered to).

The operator typing the two interpreters use comes from two *regenerated* tables (T5:
`abstract.py`; T1 via the closed form `typeBin`, itself tied to the T1 table in `Props/C02`):
`tables_agree` (kernel-decided over every row of the regenerated table) is what makes the value
classes coincide.
-/
import NadaVerif.Audit.Signature
import NadaVerif.Lemmas.ScalarRules
import NadaVerif.Lemmas.Basic

namespace NadaVerif.C18
open NadaVerif NadaVerif.Sig NadaVerif.C15 NadaVerif.Generated

/-- one row of the table regenerated from `abstract.py`: wherever the abstract interpreter returns a
class and the real typing kernel accepts the same operand classes, the two classes coincide -/
def rowAgrees (r : String × List String × String) : Bool :=
  let (key, args, c) := r
  if c = "reject" ∨ c = "pybool" then true else
  match args with
  | [x, y] =>
    BinOp.all.all fun op => opKey op ≠ key || STy.all.all fun a => a.pyName ≠ x || STy.all.all fun b =>
      b.pyName ≠ y || (match outTy (typeBin op a b) with | some t => c == t.pyName | none => true)
  | [z, x, y] =>
    key ≠ "ifElse" || STy.all.all fun cc => cc.pyName ≠ z || STy.all.all fun a => a.pyName ≠ x ||
      STy.all.all fun b => b.pyName ≠ y ||
        (match outTy (typeIfElse cc a b) with | some t => c == t.pyName | none => true)
  | _ => true

theorem tables_agree : abstractTable.all rowAgrees = true := by decide +kernel

/-- a successful lookup is a row of the table, and the table's rows agree -/
theorem absOp_row {key : String} {args : List String} {c : String} (h : absOp key args = some c) :
    rowAgrees (key, args, c) = true ∧ ¬ (c = "reject" ∨ c = "pybool") := by
  unfold absOp lookupAbs at h
  split at h
  · rename_i c' hc
    split at h
    · cases h
    · cases h
      obtain ⟨⟨k, as, c⟩, hf, rfl⟩ := Option.map_eq_some_iff.mp hc
      obtain ⟨rfl, rfl⟩ : k = key ∧ as = args := by simpa using List.find?_some hf
      exact ⟨List.all_eq_true.mp tables_agree _ (List.mem_of_find?_eq_some hf), ‹_›⟩
  · cases h

theorem bin_agree (op : BinOp) (a b : STy) (c : String) (t : STy)
    (h1 : absOp (opKey op) [a.pyName, b.pyName] = some c) (h2 : outTy (typeBin op a b) = some t) :
    c = t.pyName := by
  obtain ⟨hr, hne⟩ := absOp_row h1
  -- the row's sweeps `xs.all fun x => key x ≠ k || …` become `∀ x ∈ xs, key x = k → …`, to be read at `op`, `a`, `b`
  simp only [rowAgrees, if_neg hne, List.all_eq_true, Bool.or_eq_true, decide_eq_true_eq, ne_eq,
    ← Decidable.imp_iff_not_or] at hr
  simpa [h2] using hr op (BinOp.mem_all op) rfl a (STy.mem_all a) rfl b (STy.mem_all b) rfl

theorem ifElse_agree (c a b : STy) (r : String) (t : STy)
    (h1 : absOp "ifElse" [c.pyName, a.pyName, b.pyName] = some r) (h2 : outTy (typeIfElse c a b) = some t) :
    r = t.pyName := by
  obtain ⟨hr, hne⟩ := absOp_row h1
  simp only [rowAgrees, if_neg hne, List.all_eq_true, Bool.or_eq_true, decide_eq_true_eq, ne_eq,
    ← Decidable.imp_iff_not_or] at hr
  simpa [h2] using hr trivial c (STy.mem_all c) rfl a (STy.mem_all a) rfl b (STy.mem_all b) rfl

/-- pointwise relation of two lists (core has no `All₂`) -/
inductive All₂ {α β} (R : α → β → Prop) : List α → List β → Prop
  | nil : All₂ R [] []
  | cons {a b l₁ l₂} : R a b → All₂ R l₁ l₂ → All₂ R (a :: l₁) (b :: l₂)

def relV : AV → RV → Prop
  | .party i, .party j => i = j
  | .input i, .input j => i = j
  | .val c, .val t _ _ => c = t.pyName
  | .outObj, .outObj => True
  | _, _ => False

structure Rel (a : ASt) (r : RSt) : Prop where
  regs : All₂ relV a.regs r.regs
  parties : a.parties = r.parties
  inputs : a.inputs = r.inputs
  outputs : a.outputs = r.outputs.map (fun o => (o.name, o.party, o.ty.pyName))

theorem rel_init : Rel {} {} := ⟨.nil, rfl, rfl, rfl⟩

/-- `relV` is the graph of a function: the abstract value a real value stands for -/
def absV : RV → AV
  | .party i => .party i
  | .input i => .input i
  | .val t _ _ => .val t.pyName
  | .outObj => .outObj

/-- … and so is `Rel`: the abstract state a real state stands for -/
def absSt (r : RSt) : ASt :=
  { regs := r.regs.map absV, parties := r.parties, inputs := r.inputs,
    outputs := r.outputs.map fun o => (o.name, o.party, o.ty.pyName) }

theorem relV_iff (x : AV) (y : RV) : relV x y ↔ x = absV y := by
  cases x <;> cases y <;> simp [relV, absV]

theorem all₂_relV_iff {a : List AV} {r : List RV} : All₂ relV a r ↔ a = r.map absV := by
  constructor
  · intro h
    induction h with
    | nil => rfl
    | cons hxy _ ih => rw [(relV_iff _ _).mp hxy, ih]; rfl
  · rintro rfl
    induction r with
    | nil => exact .nil
    | cons y ys ih => exact .cons ((relV_iff _ _).mpr rfl) ih

theorem rel_iff {a : ASt} {r : RSt} : Rel a r ↔ a = absSt r := by
  constructor
  · rintro ⟨h1, h2, h3, h4⟩
    cases a
    cases h2; cases h3; cases h4; cases all₂_relV_iff.mp h1
    rfl
  · rintro rfl
    exact ⟨all₂_relV_iff.mpr rfl, rfl, rfl, rfl⟩

theorem wrap_names (s : Bool) : wrapCls s = (wrapTy s).pyName := by cases s <;> rfl

/-- One step in lockstep.  The abstract state is a function of the real one, so every register the abstract interpreter
looks up is computed from what the real interpreter found there; only the two operator tables need an argument. -/
theorem step_abs {a' : ASt} {r r' : RSt} (c : Cmd)
    (ha : absStep (absSt r) c = some a') (hr : realStep r c = some r') : a' = absSt r' := by
  revert ha hr
  -- the branches of `realStep`: `cases hr` closes those that return `none` and puts what the others return for `r'`
  fun_cases realStep r c <;> intro ha hr <;> cases hr
  next n =>
    cases ha
    simp [absSt, absV]
  next n p i hp =>
    simp only [absStep, absSt, List.getElem?_map, hp, Option.map_some, absV] at ha
    cases ha
    simp [absSt, absV]
  next sec x i hx =>
    simp only [absStep, absSt, List.getElem?_map, hx, Option.map_some, absV] at ha
    cases ha
    simp [absSt, absV, wrap_names]
  next v =>
    cases ha
    simp [absSt, absV, STy.pyName]
  next op x y ta da _ tb db _ hy hx t ht =>
    simp only [absStep, absSt, List.getElem?_map, hx, hy, Option.map_some, absV] at ha
    split at ha
    · rename_i c hc
      cases ha
      simp [absSt, absV, bin_agree op ta tb c t hc ht]
    · cases ha
  next z x y tc dc _ ta da _ tb db _ hy hx hz t ht =>
    simp only [absStep, absSt, List.getElem?_map, hz, hx, hy, Option.map_some, absV] at ha
    split at ha
    · rename_i c hc
      cases ha
      simp [absSt, absV, ifElse_agree tc ta tb c t hc ht]
    · cases ha
  next v n p t d src i hp hv =>
    simp only [absStep, absSt, List.getElem?_map, hv, hp, Option.map_some, absV] at ha
    split at ha
    · cases ha
      simp [absSt, absV]
    · cases ha

theorem run_rel (cs : List Cmd) : ∀ {a a' : ASt} {r r' : RSt}, Rel a r →
    absRun a cs = some a' → realRun r cs = some r' → Rel a' r' := by
  induction cs with
  | nil =>
    intro a a' r r' h ha hr
    cases ha; cases hr; exact h
  | cons c cs ih =>
    intro a a' r r' h ha hr
    simp only [absRun, realRun] at ha hr
    split at ha
    · rename_i a1 ha1
      split at hr
      · rename_i r1 hr1
        cases rel_iff.mp h
        exact ih (rel_iff.mpr (step_abs c ha1 hr1)) ha hr
      · cases hr
    · cases ha

variable {cs : List Cmd} {a : ASt} {r : RSt} {m : Iface}

/-- MIR type name of a class: `Public` erased (so the secrecy of an output is the same on both sides). -/
theorem mirName_of_pyName (t : STy) :
    t.mirName = (if t.mode = .sec then t.pyName else ({ t with mode := .const } : STy).pyName) := by
  obtain ⟨mo, b⟩ := t; cases mo <;> cases b <;> rfl

/-- Outputs: same names, same receiving parties, same value classes, same order. -/
theorem outputs_agree (ha : absRun {} cs = some a) (hr : realRun {} cs = some r) :
    (signature a).outputs = r.outputs.map (fun o => (o.name, partyName r.parties o.party, o.ty.pyName)) := by
  have h := run_rel cs rel_init ha hr
  simp only [signature, h.outputs, h.parties, List.map_map]
  rfl

theorem mem_dedup (x : String) : ∀ xs : List String, x ∈ dedup xs ↔ x ∈ xs
  | [] => Iff.rfl
  | y :: ys => by
    unfold dedup
    split <;> simp_all [mem_dedup x ys]

theorem dedup_nodup : ∀ xs : List String, (dedup xs).Nodup
  | [] => .nil
  | y :: ys => by
    unfold dedup
    split
    · exact dedup_nodup ys
    · exact List.nodup_cons.2 ⟨by simp_all [mem_dedup], dedup_nodup ys⟩

/-- what `iface` returns when it returns -/
theorem iface_some (hi : iface r = some m) :
    (∀ i o, (i, o) ∈ m.inputs ↔ r.reached i = true ∧ r.inputs[i]? = some o) ∧
    m.parties = dedup (m.inputs.map (fun e => partyName r.parties e.2.party) ++
      r.outputs.map fun o => partyName r.parties o.party) ∧
    m.outputs = r.outputs.map fun o => (o.name, partyName r.parties o.party, (r.outTy o).mirName) := by
  simp only [iface] at hi
  split at hi
  · cases hi
  · cases hi
    refine ⟨fun i o => ?_, rfl, rfl⟩
    simp only [List.mem_filterMap, List.mem_filter, List.mem_range, Option.map_eq_some_iff, Prod.mk.injEq]
    constructor
    · rintro ⟨_, ⟨_, hre⟩, _, ho, rfl, rfl⟩
      exact ⟨hre, ho⟩
    · rintro ⟨hre, ho⟩
      exact ⟨i, ⟨(List.getElem?_eq_some_iff.mp ho).1, hre⟩, o, ho, rfl, rfl⟩

/-- … and the MIR records for each output the MIR name of that class — provided no output hands over
a stale wrapper of a re-wrapped Input (`freshOutputs`, the complement of known finding F-C03-2). -/
theorem mir_outputs (hi : iface r = some m) (hf : r.freshOutputs = true) :
    m.outputs = r.outputs.map (fun o => (o.name, partyName r.parties o.party, o.ty.mirName)) := by
  rw [(iface_some hi).2.2]
  simp only [RSt.freshOutputs, List.all_eq_true, beq_iff_eq] at hf
  exact List.map_congr_left fun o ho => by rw [hf o ho]

/-- The hypothesis is necessary (F-C03-2 as it shows in this property): an Input wrapped as
`SecretInteger`, then as `PublicInteger`, the first wrapper handed to `Output` — the signature says
`SecretInteger`, the MIR says `Integer`. -/
def staleProg : List Cmd := [.party "P", .input "x" 0, .wrap true 1, .wrap false 1, .out 2 "o" 0]
theorem stale_wrapper_output_differs :
    ((absRun {} staleProg).map fun a => (signature a).outputs) = some [("o", "P", "SecretInteger")] ∧
    ((realRun {} staleProg).bind iface).map (·.outputs) = some [("o", "P", "Integer")] ∧
    ((realRun {} staleProg).map (·.freshOutputs)) = some false := by decide +kernel

/-- Every input of the MIR interface is an Input object of the signature, with the same name,
owning party and wrapper class (`secret`). -/
theorem mir_inputs_in_signature (ha : absRun {} cs = some a) (hr : realRun {} cs = some r)
    (hi : iface r = some m) : ∀ e ∈ m.inputs, (signature a).inputs[e.1]? = some e.2 := by
  intro e he
  rw [signature, (run_rel cs rel_init ha hr).inputs]
  exact ((iface_some hi).1 e.1 e.2 |>.mp he).2

/-- The inputs the signature lists beyond the MIR's are exactly those no output depends on. -/
theorem extra_inputs_exact (ha : absRun {} cs = some a) (hr : realRun {} cs = some r)
    (hi : iface r = some m) (i : Nat) (hlt : i < (signature a).inputs.length) :
    (¬ ∃ e ∈ m.inputs, e.1 = i) ↔ r.reached i = false := by
  have hlt' : i < r.inputs.length := by simpa [signature, (run_rel cs rel_init ha hr).inputs] using hlt
  rw [← Bool.not_eq_true]
  apply not_congr
  constructor
  · rintro ⟨⟨_, o⟩, he, rfl⟩
    exact ((iface_some hi).1 _ o |>.mp he).1
  · exact fun hre => ⟨(i, r.inputs[i]), (iface_some hi).1 _ _ |>.mpr ⟨hre, List.getElem?_eq_getElem hlt'⟩, rfl⟩

/-- A party name is in the MIR exactly when it owns a reachable input or receives an output;
each name once. -/
theorem mir_parties_exact (hi : iface r = some m) (q : String) :
    q ∈ m.parties ↔ ((∃ e ∈ m.inputs, partyName r.parties e.2.party = q) ∨
                     (∃ o ∈ r.outputs, partyName r.parties o.party = q)) := by
  simp only [(iface_some hi).2.1, mem_dedup, List.mem_append, List.mem_map]

theorem mir_parties_nodup (hi : iface r = some m) : m.parties.Nodup := by
  rw [(iface_some hi).2.1]
  exact dedup_nodup _

/-- party indices never point outside `parties`: in a register, in an Input object, in an output -/
structure PartiesOK (r : RSt) : Prop where
  regs : ∀ v ∈ r.regs, ∀ i, v = .party i → i < r.parties.length
  inputs : ∀ o ∈ r.inputs, o.party < r.parties.length
  outputs : ∀ o ∈ r.outputs, o.party < r.parties.length

theorem setTy_party (xs : List InputObj) (i : Nat) (s : Bool) (n : Nat)
    (h : ∀ o ∈ xs, o.party < n) : ∀ o ∈ setTy xs i s, o.party < n := by
  unfold setTy
  split
  · rename_i o ho
    intro o' ho'
    rcases List.mem_or_eq_of_mem_set ho' with h1 | rfl
    · exact h o' h1
    · exact h o (List.mem_of_getElem? ho)
  · exact h

theorem setTy_length (xs : List InputObj) (i : Nat) (s : Bool) : (setTy xs i s).length = xs.length := by
  unfold setTy; split <;> simp

/-- Every step appends a register, and a party index it stores comes out of a party register. -/
theorem step_partiesOK {r r' : RSt} (c : Cmd) (h : PartiesOK r) (hr : realStep r c = some r') : PartiesOK r' := by
  obtain ⟨h1, h2, h3⟩ := h
  revert hr
  fun_cases realStep r c <;> intro hr <;> cases hr
  next n =>
    have up {i} (h : i < r.parties.length) : i < (r.parties ++ [n]).length := by
      rw [List.length_append]
      exact Nat.lt_succ_of_lt h
    exact ⟨Lemmas.forall_mem_snoc (fun v hv i e => up (h1 v hv i e)) (fun i e => by cases e; simp),
      fun o ho => up (h2 o ho), fun o ho => up (h3 o ho)⟩
  next n p i hp =>
    exact ⟨Lemmas.forall_mem_snoc h1 nofun, Lemmas.forall_mem_snoc h2 (h1 _ (List.mem_of_getElem? hp) i rfl), h3⟩
  next => exact ⟨Lemmas.forall_mem_snoc h1 nofun, setTy_party _ _ _ _ h2, h3⟩
  -- `lit`, `bin`, `ifElse`: one more value register
  next => exact ⟨Lemmas.forall_mem_snoc h1 nofun, h2, h3⟩
  next => exact ⟨Lemmas.forall_mem_snoc h1 nofun, h2, h3⟩
  next => exact ⟨Lemmas.forall_mem_snoc h1 nofun, h2, h3⟩
  next v n p t d src i hp hv =>
    exact ⟨Lemmas.forall_mem_snoc h1 nofun, h2, Lemmas.forall_mem_snoc h3 (h1 _ (List.mem_of_getElem? hp) i rfl)⟩

theorem run_partiesOK (cs : List Cmd) : ∀ {r r' : RSt}, PartiesOK r → realRun r cs = some r' → PartiesOK r' := by
  induction cs with
  | nil => intro r r' h hr; cases hr; exact h
  | cons c cs ih =>
    intro r r' h hr
    simp only [realRun] at hr
    split at hr
    · rename_i r1 hr1; exact ih (step_partiesOK c h hr1) hr
    · cases hr

theorem partiesOK_init : PartiesOK {} := by constructor <;> simp

theorem partyName_mem (ps : List String) (i : Nat) (h : i < ps.length) : partyName ps i ∈ ps := by
  simp [partyName, h]

/-- Every party of the MIR interface is one of the signature's parties (same name). -/
theorem mir_parties_in_signature (ha : absRun {} cs = some a) (hr : realRun {} cs = some r)
    (hi : iface r = some m) : ∀ q ∈ m.parties, q ∈ (signature a).parties := by
  have ok := run_partiesOK cs partiesOK_init hr
  intro q hq
  rw [signature, (run_rel cs rel_init ha hr).parties]
  rcases (mir_parties_exact hi q).1 hq with ⟨e, he, rfl⟩ | ⟨o, ho, rfl⟩
  · exact partyName_mem _ _ (ok.inputs _ (List.mem_of_getElem? ((iface_some hi).1 e.1 e.2 |>.mp he).2))
  · exact partyName_mem _ _ (ok.outputs _ ho)

/-- The parties the signature lists beyond the MIR's are exactly the names that own no reachable
input and receive no output. -/
theorem extra_parties_exact (hi : iface r = some m) (q : String) :
    q ∉ m.parties ↔ ((∀ e ∈ m.inputs, partyName r.parties e.2.party ≠ q) ∧
                     (∀ o ∈ r.outputs, partyName r.parties o.party ≠ q)) := by
  simp only [mir_parties_exact hi q, not_or, not_exists, not_and, ne_eq]

/-! ### non-vacuity: a program both interpreters accept, with an unused input, an unused party,
a re-wrapped input and a public output -/

def exProg : List Cmd := [
  .party "P", .party "Q", .party "Unused",
  .input "a" 0, .input "b" 1, .input "dead" 1,
  .wrap true 3, .wrap false 4, .wrap true 5, .wrap false 5,
  .lit 7, .bin .mul 7 10, .bin .add 6 11, .bin .lt 6 7, .ifElse 13 12 6,
  .out 14 "o1" 1, .out 11 "o2" 0 ]

example :
    ((absRun {} exProg).map fun a => (signature a).outputs) =
      some [("o1", "Q", "SecretInteger"), ("o2", "P", "PublicInteger")] ∧
    ((realRun {} exProg).bind iface).map (fun m => (m.inputs.map (·.1), m.parties, m.outputs)) =
      some ([0, 1], ["Q", "P"], [("o1", "Q", "SecretInteger"), ("o2", "P", "Integer")]) ∧
    ((realRun {} exProg).map (·.freshOutputs)) = some true := by
  decide +kernel

end NadaVerif.C18
