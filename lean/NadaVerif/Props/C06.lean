/-
C06 — literal-only expressions fold to the exact integer or boolean result.

The theorems are about `Generated.foldExpr`, the term regenerated (translator T2) from the
lambdas / helper CONSTANT-cases / literal constructors of `scalar_types.py`, evaluated with
the Python semantics of `Py/Int.lean`, for **all** `Int` operands and both booleans.
Which applications fold (exactly the literal-only ones) is proved over the regenerated T1 table.
-/
import NadaVerif.Spec.C06

namespace NadaVerif.C06
open NadaVerif NadaVerif.Py NadaVerif.Generated

section numeric
variable (b : Base) (hb : b.isNumeric = true) (x y : Int)
include hb

/-- both numeric literal constructors normalise by `int(·)`; on an `int` that is the identity -/
theorem foldVal_numeric (op : PyBin) :
    eval (ctorNorm b (.bin op .lhs .rhs)) (.int x) (.int y) =
      (evalBin op (.int x) (.int y)).bind fun v => (pyInt v).map .int := by
  cases b <;> first | rfl | cases hb

/-- so where Python's operator returns an integer, that integer is the folded value (below, `h` is the branch of `evalBin` that
the side condition selects) -/
theorem foldVal_int {op : PyBin} {z : Int} (h : evalBin op (.int x) (.int y) = .ok (.int z)) :
    eval (ctorNorm b (.bin op .lhs .rhs)) (.int x) (.int y) = .ok (.int z) := by
  rw [foldVal_numeric b hb, h]
  rfl

theorem fold_add_exact : foldVal .add b (.int x) (.int y) = .ok (.int (x + y)) := foldVal_int b hb x y rfl
theorem fold_sub_exact : foldVal .sub b (.int x) (.int y) = .ok (.int (x - y)) := foldVal_int b hb x y rfl
theorem fold_mul_exact : foldVal .mul b (.int x) (.int y) = .ok (.int (x * y)) := foldVal_int b hb x y rfl

theorem fold_pow_exact (he : 0 ≤ y) : foldVal .pow b (.int x) (.int y) = .ok (.int (x ^ y.toNat)) :=
  foldVal_int b hb x y (if_pos he)

theorem fold_shl_exact (hn : 0 ≤ y) : foldVal .shl b (.int x) (.int y) = .ok (.int (x * 2 ^ y.toNat)) :=
  foldVal_int b hb x y (if_neg (Int.not_lt.2 hn))

theorem fold_shr_exact (hn : 0 ≤ y) :
    foldVal .shr b (.int x) (.int y) = .ok (.int (x / ((2 : Int) ^ y.toNat))) :=
  Int.shiftRight_eq_div_pow .. ▸ foldVal_int b hb x y (if_neg (Int.not_lt.2 hn))

theorem fold_div_zero : foldVal .div b (.int x) (.int 0) = .error .zeroDiv ∧
    foldVal .mod b (.int x) (.int 0) = .error .zeroDiv :=
  ⟨foldVal_numeric b hb .., foldVal_numeric b hb ..⟩
theorem fold_divmod_law (hy : y ≠ 0) :
    ∃ q r : Int, foldVal .div b (.int x) (.int y) = .ok (.int q) ∧
      foldVal .mod b (.int x) (.int y) = .ok (.int r) ∧ x = q * y + r ∧ r.natAbs < y.natAbs := by
  refine ⟨Int.fdiv x y, Int.fmod x y, foldVal_int b hb x y (if_neg hy), foldVal_int b hb x y (if_neg hy), ?_, ?_⟩
  · have := Int.fdiv_mul_add_fmod x y; omega
  · rcases Int.lt_or_gt_of_ne hy with h | h
    · -- negative divisor: the remainder has the sign of the divisor (`(-x).fmod (-y) = -x.fmod y`)
      have h1 := Int.fmod_nonneg_of_pos (-x) (Int.neg_pos.2 h)
      have h2 := Int.fmod_lt_of_pos (-x) (Int.neg_pos.2 h)
      rw [Int.neg_fmod_neg] at h1 h2
      omega
    · have h1 := Int.fmod_nonneg_of_pos x h
      have h2 := Int.fmod_lt_of_pos x h
      omega
omit hb in
theorem fold_cmp_exact :
    foldVal .lt b (.int x) (.int y) = .ok (.bool (decide (x < y))) ∧
    foldVal .gt b (.int x) (.int y) = .ok (.bool (decide (x > y))) ∧
    foldVal .le b (.int x) (.int y) = .ok (.bool (decide (x ≤ y))) ∧
    foldVal .ge b (.int x) (.int y) = .ok (.bool (decide (x ≥ y))) ∧
    foldVal .eq b (.int x) (.int y) = .ok (.bool (decide (x = y))) ∧
    foldVal .ne b (.int x) (.int y) = .ok (.bool (decide (x ≠ y))) :=
  ⟨rfl, rfl, rfl, rfl, rfl, rfl⟩

end numeric

theorem fold_logic_exact (p q : Bool) :
    foldVal .and .bool (.bool p) (.bool q) = .ok (.bool (p && q)) ∧
    foldVal .or .bool (.bool p) (.bool q) = .ok (.bool (p || q)) ∧
    foldVal .xor .bool (.bool p) (.bool q) = .ok (.bool (p != q)) ∧
    foldVal .eq .bool (.bool p) (.bool q) = .ok (.bool (p == q)) ∧
    foldVal .ne .bool (.bool p) (.bool q) = .ok (.bool (p != q)) ∧
    eval invertExpr (.bool p) (.bool p) = .ok (.bool (!p)) := by
  cases p <;> cases q <;> exact ⟨rfl, rfl, rfl, rfl, rfl, rfl⟩

/-- The base type of the folded literal is the operands' base (boolean for comparisons). -/
theorem fold_result_base (op : BinOp) (b : Base) :
    foldBase op b = (match op.cls with | .rel | .eqop | .logic => .bool | _ => b) := by
  cases op <;> rfl

theorem table_folds_exactly_literals : scalarTables.all (·.all foldedIffLiteral) = true := by
  decide +kernel

/-! Non-vacuity: concrete instances, including magnitudes beyond 2^53 and 2^64. -/
example : foldVal .div .int (.int (-7)) (.int 2) = .ok (.int (-4)) := by rfl
example : foldVal .mod .int (.int (-7)) (.int 2) = .ok (.int 1) := by rfl
example : foldVal .div .int (.int (2^60+1)) (.int 1) = .ok (.int (2^60+1)) := by rfl
example : foldVal .shr .int (.int (-5)) (.int 1) = .ok (.int (-3)) := by rfl

end NadaVerif.C06
