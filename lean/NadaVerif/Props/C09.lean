/-
C09 — MIR tables hold exactly what the outputs need, each entry once.

Proved for every store and output list (induction over the traversal, `Lemmas/Tables.lean`): no dead operation in the program table or in any function table, no
id filed twice; of the list-level clauses, that no function, input or literal is listed twice and that every reference
has its entry (`functions_once_and_present`, `inputs_literals_once_and_present`).  That nothing *else* is listed, and that
literal entries carry the written value, is stated as the executable spec `Spec.exact`, evaluated on every model MIR and
mirrored by the Python oracle on every real MIR.
-/
import NadaVerif.Props.C01

namespace NadaVerif.C09
open NadaVerif NadaVerif.Spec NadaVerif.Lemmas

/-- Every entry of the program table is reachable from an output, every entry of a function table
from the function's return operation (nothing dead is emitted). -/
theorem no_dead_ops (st : St) (outs : List OutDecl) (m : MirProg) (h : compile st outs = .ok m) :
    (∀ e ∈ m.operations, Reach st (outs.map (·.root)) e.1) ∧
    (∀ f ∈ m.functions, ∀ e ∈ f.ops, Reach st [f.returnOp] e.1) :=
  have g := compile_walk h; ⟨g.prog.reach, fun f hfm => (g.fns f hfm).walk.reach⟩

/-- Nothing needed is missing: every table is closed under operand references and contains its
roots (outputs / return operation); no id is listed twice. -/
theorem nothing_missing_nothing_twice (st : St) (outs : List OutDecl) (m : MirProg)
    (h : compile st outs = .ok m) :
    (∀ t ∈ allTables m, tableClosed t = true ∧ (keys t).Nodup) ∧
    (∀ o ∈ m.outputs, HasKey m.operations o.opId) ∧ (∀ f ∈ m.functions, HasKey f.ops f.returnOp) := by
  have g := compile_walk h
  exact ⟨C01.compile_tables_closed st outs m h, g.outputs, fun f hfm => (g.fns f hfm).ret⟩

/-- Every emitted entry is the store's own record: the MIR says about an operation exactly what
was traced for it (in particular a literal reference carries the index interned for its value). -/
theorem entries_are_store_records (st : St) (outs : List OutDecl) (m : MirProg)
    (h : compile st outs = .ok m) : ∀ t ∈ allTables m, ∀ e ∈ t, st.lookup e.1 = some e.2 :=
  C01.compile_entries_from_store st outs m h

/-- No function is listed twice, and every function reference of every table names a listed function. -/
theorem functions_once_and_present (st : St) (outs : List OutDecl) (m : MirProg) (h : compile st outs = .ok m) :
    (m.functions.map (·.id)).Nodup ∧
    ∀ t ∈ allTables m, ∀ e ∈ t, ∀ f, e.2.fnRef = some f → f ∈ m.functions.map (·.id) :=
  compile_fn_cov h

/-- No input name and no literal name is listed twice; every input / literal reference of every table has its entry. -/
theorem inputs_literals_once_and_present (st : St) (outs : List OutDecl) (m : MirProg) (h : compile st outs = .ok m) :
    (m.inputs.map (·.name)).Nodup ∧ (m.literals.map (·.name)).Nodup ∧
    ∀ t ∈ allTables m, ∀ e ∈ t,
      (∀ n p d ty, e.2 = .input n p d ty → (⟨n, ty, p, d, e.1⟩ : MirInput) ∈ m.inputs) ∧
      (∀ v i ty, e.2 = .literal v i ty → count (toString i) (m.literals.map (·.name)) = 1) := by
  have a := compile_acc h
  exact ⟨a.names, a.lits, fun t ht e he => ⟨fun n p d ty heq => ((a.refs t ht e he).1 n p d ty heq).1, (a.refs t ht e he).2⟩⟩

/-- **No entry a traced program refers to is missing from the store the tables are filled from**: compiling any
traced program with outputs taken from its registers never fails on a missing id (so "missing" in
`nothing_missing_nothing_twice` cannot be hidden behind a failed compilation). -/
theorem traced_nothing_missing (cs : List Cmd) (outs : List OutDecl)
    (ho : C01.OutsFromRegs (runCmds {} cs).1.regs outs) : compile (runCmds {} cs).1.st outs ≠ .error .key :=
  C01.trace_compile_no_missing cs outs ho

/-- Non-vacuity and a concrete dead-code example: operation 4 is traced but no output needs it. -/
def exSt : St := St.mk 4
  [(4, .binary "Multiplication" 1 2 (.scalar "SecretInteger")),
   (3, .binary "Addition" 1 2 (.scalar "SecretInteger")),
   (2, .input "b" "P" "" (.scalar "SecretInteger")), (1, .input "a" "P" "" (.scalar "SecretInteger"))] []
example : (compile exSt [OutDecl.mk 3 "o" "P"]).toOption.map (fun m => (keys m.operations, Spec.exact m)) =
    some ([3, 2, 1], true) := by decide

end NadaVerif.C09
