/-
C15 — the abstract interpreter agrees with the real DSL on types and values.

* `abstract_accepts_when_real` (decide +kernel over two regenerated tables — T1 from the real
  classes, T5 from nada_dsl.audit): for every operator the abstract interpreter models and every
  combination of integer / boolean operand classes, if the real DSL accepts, the abstract
  interpreter accepts and returns the class of the same name.
* value exactness, for all `Int` values, of the value-propagation expressions translated
  syntactically from abstract.py (`absValueExpr`): sums, differences, products, negation,
  comparisons, and the conditional.
-/
import NadaVerif.Spec.C15

namespace NadaVerif.C15
open NadaVerif NadaVerif.Generated NadaVerif.Py

/-- a lookup may go through the rows of its operator -/
theorem lookupAbs_eq :
    lookupAbs = fun op args => ((abstractTable.filter (·.1 = op)).find? (·.2.1 = args)).map (·.2.2) := by
  funext op args
  simp [lookupAbs, List.find?_filter]

theorem abstract_accepts_when_real : scalarTables.all (·.all cellAgrees) = true := by
  -- evaluated with the lookup sent through the rows of its operator: `cellAgrees` takes the row apart, so the kernel sees the
  -- operator as a literal and computes that sub-table once per operator, where `lookupAbs` walks the whole table for every
  -- cell (slow to check)
  delta cellAgrees
  rw [lookupAbs_eq]
  decide +kernel

/-- every modelled operator has rows for the three integer classes (the tables are not vacuous) -/
theorem abstract_table_covers :
    (["add", "sub", "mul", "lt", "le", "gt", "ge", "eq", "ne"].all fun op =>
      ["Integer", "PublicInteger", "SecretInteger"].all fun a =>
        ["Integer", "PublicInteger", "SecretInteger"].all fun b => (lookupAbs op [a, b]).isSome) = true := by
  rw [lookupAbs_eq]
  decide +kernel

theorem abs_arith_exact (x y : Int) :
    eval (absValueExpr "add") (.int x) (.int y) = .ok (.int (x + y)) ∧
    eval (absValueExpr "sub") (.int x) (.int y) = .ok (.int (x - y)) ∧
    eval (absValueExpr "mul") (.int x) (.int y) = .ok (.int (x * y)) ∧
    eval (absValueExpr "neg") (.int x) (.int y) = .ok (.int (-x)) ∧
    eval (absValueExpr "pos") (.int x) (.int y) = .ok (.int x) :=
  ⟨rfl, rfl, rfl, rfl, rfl⟩

theorem abs_cmp_exact (x y : Int) :
    eval (absValueExpr "lt") (.int x) (.int y) = .ok (.bool (decide (x < y))) ∧
    eval (absValueExpr "le") (.int x) (.int y) = .ok (.bool (decide (x ≤ y))) ∧
    eval (absValueExpr "gt") (.int x) (.int y) = .ok (.bool (decide (x > y))) ∧
    eval (absValueExpr "ge") (.int x) (.int y) = .ok (.bool (decide (x ≥ y))) ∧
    eval (absValueExpr "eq") (.int x) (.int y) = .ok (.bool (decide (x = y))) ∧
    eval (absValueExpr "ne") (.int x) (.int y) = .ok (.bool (decide (x ≠ y))) :=
  ⟨rfl, rfl, rfl, rfl, rfl, rfl⟩

/-- the conditional selects the branch the condition says, for all values (0 included) -/
theorem abs_ifElse_exact (c : Bool) (x y : Int) :
    eval3 (absValueExpr "ifElse") (.int x) (.int y) (.bool c) = .ok (.int (if c then x else y)) := by
  cases c <;> rfl

example : eval3 (absValueExpr "ifElse") (.int 0) (.int 5) (.bool true) = .ok (.int 0) := by rfl

end NadaVerif.C15
