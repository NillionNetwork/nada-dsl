/-
C13 — compilation is deterministic and the same through every entry point (partial).

Proved about the model: the command-line entry point prints exactly one line for every argument
list, a Success line carrying the MIR exactly when the program compiled and a Failure line carrying
the reason otherwise; the file entry point and the base64 entry point yield the same result for
the same program text; the compile model is a function of the trace (no set or hash order can
enter: every list of the MIR is built by list operations of the model).
The compile timers as a state machine (`Runtime/Timer.lean`): after any history of compilations — successful,
failing while the program is loaded, inside `nada_main`, in the middle of the outputs — no timer is left
running, a later compilation never ends with a `TimerError`, and a program that fails nowhere compiles; the
recorded `start` / `stop` calls of real histories are replayed through the model on every run (K12).
Not provable here and exercised on every run by fresh-process executions (K9): hash-seed
independence of the real process, the import system, stdout.
-/
import NadaVerif.Runtime.Cli
import NadaVerif.Lemmas.Timer
import NadaVerif.Compile

namespace NadaVerif.C13
open NadaVerif NadaVerif.Runtime

theorem cli_one_line (argv : List String) (cs cstr : String → Except String String) :
    (cliMain argv cs cstr).length = 1 := by
  fun_cases cliMain argv cs cstr <;> rfl

theorem cli_path_success (prog path mir : String) (cs cstr : String → Except String String)
    (h : cs path = .ok mir) : cliMain [prog, path] cs cstr = [.success mir] := by
  simp [cliMain, lineOf, h]

theorem cli_path_failure (prog path reason : String) (cs cstr : String → Except String String)
    (h : cs path = .error reason) : cliMain [prog, path] cs cstr = [.failure reason] := by
  simp [cliMain, lineOf, h]

theorem cli_string_entry (prog b64 : String) (cs cstr : String → Except String String) :
    cliMain [prog, "-s", b64] cs cstr = [lineOf (cstr b64)] := by
  simp [cliMain]

/-- The two entry points agree on the same program text. -/
theorem entry_points_agree (readFile decode : String → Option String) (run : String → Except String String)
    (path b64 src : String) (hf : readFile path = some src) (hd : decode b64 = some src) :
    compileScript readFile run path = compileString decode run b64 := by
  simp [compileScript, compileString, hf, hd]

/-- Determinism of the model: the MIR is a function of the traced store and the output list. -/
theorem compile_deterministic (st : St) (outs : List OutDecl) (m1 m2 : MirProg)
    (h1 : compile st outs = .ok m1) (h2 : compile st outs = .ok m2) : m1 = m2 := by
  rw [h1] at h2; injection h2

/-- … and the trace is a function of the program: the machine reached after `cs₁ ++ cs₂` is the machine reached by
running `cs₂` from where `cs₁` ended (no hidden state besides the machine). -/
theorem runCmds_append (m : Mach) (cs₁ cs₂ : List Cmd) :
    (runCmds m (cs₁ ++ cs₂)).1 = (runCmds (runCmds m cs₁).1 cs₂).1 := by
  induction cs₁ generalizing m with
  | nil => rfl
  | cons c cs ih => simp only [List.cons_append, runCmds]; exact ih _

example : cliMain ["compile.py", "prog.py"] (fun _ => .ok "{}") (fun _ => .error "x") = [.success "{}"] := by decide

/-- **No timer survives a compilation.**  After any history of compilations in one process — through either entry point,
each succeeding or failing at any of its stages — the set of running timers is empty again. -/
theorem timers_balanced_after_history (h : List (Bool × Prog)) : (runHistory {} h).2.running = [] :=
  runHistory_running h {}

/-- … so a compilation that follows any history never ends with a `TimerError`, … -/
theorem no_timer_error_after_history (h : List (Bool × Prog)) (v : Bool) (p : Prog) :
    ((compileVia v p).run.run (runHistory {} h).2).1 ≠ .error .timer :=
  (runs_compileVia (c := []) (Q := (· ≠ .error .timer)) v p nofun (fun _ h => absurd h List.not_mem_nil) (fun _ => nofun) _ (timers_balanced_after_history h)).2

/-- … and a program that fails nowhere compiles with the timers enabled whatever was compiled before it. -/
theorem good_program_compiles_after_history (h : List (Bool × Prog)) (v : Bool) (p : Prog) (hg : p.good) :
    ((compileVia v p).run.run (runHistory {} h).2).1 = .ok () :=
  (runs_compileVia (c := []) (Q := (· = .ok ())) v p rfl (fun _ h => absurd h List.not_mem_nil) (absurd hg) _ (timers_balanced_after_history h)).2

/-- Non-vacuity: a history with a program failing while it is loaded, one failing in its second output, one failing in
`nada_main`, then a good program with two outputs of one name. -/
example : (runHistory {} [(false, { importFails := true }), (true, { outputs := [("a", false), ("b", true), ("c", false)] }),
    (false, { mainFails := true }), (false, { outputs := [("o", false), ("o", false)] })]).1.map TErr.code =
    [2, 2, 2, 0] := by decide +kernel

/-- Sensitivity: without the `finally` around the import, a program that fails while it is loaded leaves its timer
running and the next compilation of a correct program ends with a `TimerError`. -/
example : TErr.code ((tCompileScriptNoFinally {}).run.run ((tCompileScriptNoFinally { importFails := true }).run.run {}).2).1 = 1 := by
  decide +kernel

end NadaVerif.C13
