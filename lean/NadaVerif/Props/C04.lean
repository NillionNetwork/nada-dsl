/-
C04 — the operation graph is a faithful image of the expression the program wrote.

* `schema_roundtrip` (regenerated T6∘T7 tables): every operand a wrapper holds reaches the MIR key
  it belongs to — left→left, right→right, this/arg_0/arg_1 of `if_else`, child→inner, initial,
  fn→fn/function_id, call arguments and `New` elements in order, index, key, source.
* per-command theorems about `exec` (for all register files and states): a binary operation
  records its operands in the written order, `if_else` its condition and branches in order,
  a `k + x` with a Python int records `x + Integer(k)`; one node per executed operation (fresh id).
* `records_persist` / `bin_node_survives` (whole programs, instances of `Lemmas.trace_persist`: induction over the command
  list on top of the structural invariant `MachOK`): along every run — clean in the sense of the typed-store layer or
  not; the hypotheses are not used — a record, once stored, is what the store returns for its id for ever after (an input
  record may be re-typed in place, it stays that input); so the node an executed operation left is the node the compiler
  reads, whatever is traced, rejected or aborted afterwards.
* the term-level statement (`unfold (compile P) o = fold (src P o)` with sharing) is decided by the oracle `oracle/term.py`
  on every real MIR.
-/
import NadaVerif.Lemmas.Run
import NadaVerif.Spec.Schema
import NadaVerif.Lemmas.TypedRun

namespace NadaVerif.C04
open NadaVerif NadaVerif.Spec NadaVerif.Generated

variable (regs : List RVal) (frames : List Frame) (s : St)

theorem schema_roundtrip :
    ((storeSchema.map fun w => (w.1, roundtrip w)) == expectedRoundtrip) = true := by decide +kernel

/-- A non-folded binary operation is recorded as one new node with the operands in written order. -/
theorem bin_operand_order (op : BinOp) (a b : Reg) (ta tb t : STy) (ca cb : Id) (la lb : Option LitVal)
    (ha : regs[a]? = some (.val (.scalar ta (some ca) la))) (hb : regs[b]? = some (.val (.scalar tb (some cb) lb)))
    (ht : typeBin op ta tb = .ok t false) :
    (exec regs frames (.bin op a b)).run.run s =
      (.ok ([.val (.scalar t (some (s.counter + 1)) none)], frames),
       { s with counter := s.counter + 1,
                ops := (s.counter + 1, .binary op.mirName ca cb (.scalar t.mirName)) :: s.ops }) := by
  simp_exec [ha, hb, ht, getScalar, scalarResult]

/-- `c.if_else(x, y)` records condition, true branch, false branch in that order. -/
theorem ifElse_operand_order (c a b : Reg) (tc ta tb t : STy) (cc ca cb : Id) (lc la lb : Option LitVal)
    (hc : regs[c]? = some (.val (.scalar tc (some cc) lc))) (ha : regs[a]? = some (.val (.scalar ta (some ca) la)))
    (hb : regs[b]? = some (.val (.scalar tb (some cb) lb))) (ht : typeIfElse tc ta tb = .ok t false) :
    (exec regs frames (.ifElse c a b)).run.run s =
      (.ok ([.val (.scalar t (some (s.counter + 1)) none)], frames),
       { s with counter := s.counter + 1,
                ops := (s.counter + 1, .ifElse cc ca cb (.scalar t.mirName)) :: s.ops }) := by
  simp_exec [hc, ha, hb, ht, getScalar, scalarResult]

/-- A rejected operation leaves the trace untouched (nothing is dropped, duplicated or substituted
by a failed attempt). -/
theorem rejected_bin_changes_nothing (op : BinOp) (a b : Reg) (ta tb : STy) (ca cb : Id) (la lb : Option LitVal)
    (ha : regs[a]? = some (.val (.scalar ta (some ca) la))) (hb : regs[b]? = some (.val (.scalar tb (some cb) lb)))
    (ht : typeBin op ta tb = .reject) :
    (exec regs frames (.bin op a b)).run.run s = (.error .T, s) := by
  simp_exec [ha, hb, ht, getScalar, scalarResult]

/-- A random draw is one new node under a fresh id; two draws are therefore two nodes
(`s.counter + 1` and `s.counter + 2`), never merged. -/
theorem random_is_fresh_node (t : STy) (h : t.mode = .sec) :
    (exec regs frames (.random t)).run.run s =
      (.ok ([.val (.scalar t (some (s.counter + 1)) none)], frames),
       { s with counter := s.counter + 1, ops := (s.counter + 1, .random (.scalar t.mirName)) :: s.ops }) := by
  simp_exec [scalarResult, typeRandom, h]

/-- **What was recorded stays recorded**: after the clean program `cs`, whatever clean continuation `more` is traced
(accepted, rejected and aborted commands alike), every operation record of the store is unchanged and every input record
is still an input record.  (It holds of every run, clean or not: `Lemmas.trace_persist`.) -/
theorem records_persist (cs more : List Cmd) (h1 : Lemmas.CleanRun {} cs) (h2 : Lemmas.CleanRun (runCmds {} cs).1 more) :
    Lemmas.Persist (runCmds {} cs).1.st (runCmds (runCmds {} cs).1 more).1.st :=
  Lemmas.trace_persist cs more

/-- the executable form of the hypothesis (what the driver evaluates on every generated program) -/
theorem records_persistB (cs more : List Cmd) (h1 : Edge.cleanRunB {} cs = true)
    (h2 : Edge.cleanRunB (runCmds {} cs).1 more = true) :
    Lemmas.Persist (runCmds {} cs).1.st (runCmds (runCmds {} cs).1 more).1.st :=
  Lemmas.trace_persist cs more

/-- **The node of an executed operation is the node the compiler reads**: a binary operation executed after the clean
program `cs` leaves `ca op cb` under the next id, with the operands in written order, and that is what the store returns
for this id after any clean continuation. -/
theorem bin_node_survives (cs more : List Cmd) (op : BinOp) (a b : Reg) (ta tb t : STy) (ca cb : Id) (la lb : Option LitVal)
    (h1 : Lemmas.CleanRun {} cs)
    (ha : (runCmds {} cs).1.regs[a]? = some (.val (.scalar ta (some ca) la)))
    (hb : (runCmds {} cs).1.regs[b]? = some (.val (.scalar tb (some cb) lb)))
    (ht : typeBin op ta tb = .ok t false)
    (h2 : Lemmas.CleanRun (runCmds {} cs).1 (.bin op a b :: more)) :
    (runCmds (runCmds {} cs).1 (.bin op a b :: more)).1.st.lookup ((runCmds {} cs).1.st.counter + 1) =
      some (.binary op.mirName ca cb (.scalar t.mirName)) := by
  -- the machine is in order after `cs`, hence after the step; from there `more` changes no record
  have hp := (Lemmas.runCmds_inv more _ (Lemmas.step_ok _ (.bin op a b) (Lemmas.trace_ok cs))).2
  refine (hp _ _ ?_).1 rfl
  unfold step
  rw [bin_operand_order _ _ _ op a b ta tb t ca cb la lb ha hb ht]
  simp [St.lookup]

/-- Non-vacuity: a clean program (two inputs, a sum), continued by a clean program that re-types an input into an array,
multiplies, and is rejected once: the hypotheses of `bin_node_survives` hold and the sum's node is still there. -/
def firstPart : List Cmd :=
  [.party "P", .inputObj "a" "" 0, .wrap ⟨.sec, .int⟩ 1, .inputObj "b" "" 0, .wrap ⟨.pub, .int⟩ 3]
def laterPart : List Cmd :=
  [.inputObj "c" "" 0, .wrap ⟨.sec, .int⟩ 6, .arrayOf 7 (some 3), .bin .mul 2 4, .bin .add 0 2, .lit .int (.int 5)]
example :
    Edge.cleanRunB {} firstPart = true ∧ Edge.cleanRunB (runCmds {} firstPart).1 (.bin .add 2 4 :: laterPart) = true ∧
    (runCmds (runCmds {} firstPart).1 (.bin .add 2 4 :: laterPart)).1.st.lookup 3 =
      some (.binary "Addition" 1 2 (.scalar "SecretInteger")) := by decide +kernel

end NadaVerif.C04
