/-
C19 — source references designate the user line that created each MIR element (partial: frame
objects are runtime; the walk over them and the line arithmetic are modelled and proved).

* `lineInfo_exact`: for every text (as a list of lines without the separator) and every existing
  line number, the recorded (offset, length) delimit exactly that line inside the joined text —
  including the last line.
* `intern_*`: `to_index` returns the index of an equal entry and never disturbs earlier indices; `internAll_*`,
  `sourcesOf_own`: one compilation's `to_index` calls as a fold from the empty table — the table holds only this
  compilation's references, each once, every element's index resolves to its own reference, and only files the table
  names are embedded.
* `resolve_user`: the frame walk returns the innermost frame outside the package whenever the
  stack has one, never a DSL frame.
* `frames_user` (regenerated T4 table): for every DSL entry point exercised by the catalogue,
  the recorded reference names the user file, the user's line, and delimits that line's text; `call_sites_covered`: the
  catalogue reaches every `back_frame()` call site of the package.
-/
import NadaVerif.Runtime.SourceRef
import NadaVerif.Generated.FrameTable
import NadaVerif.Lemmas.Basic

namespace NadaVerif.C19
open NadaVerif.Runtime NadaVerif.Generated

theorem drop_offset {α} (sep : α) : ∀ (lines : List (List α)) (i : Nat), i < lines.length →
    ∃ rest, (joinLines sep lines).drop ((lines.take i).map fun l => l.length + 1).sum =
      lines.getD i [] ++ rest
  | [l], 0, _ => ⟨[], (List.append_nil l).symm⟩
  | l :: a :: as, 0, _ => ⟨_, rfl⟩
  | l :: a :: as, i + 1, h => by
    obtain ⟨rest, hr⟩ := drop_offset sep (a :: as) i (Nat.lt_of_succ_lt_succ h)
    refine ⟨rest, ?_⟩
    rw [List.take_succ_cons, List.map_cons, List.sum_cons, ← List.drop_drop, List.getD_cons_succ, ← hr]
    show List.drop _ (List.drop (l.length + 1) (l ++ sep :: _)) = _
    rw [← List.drop_drop, List.drop_left]
    rfl

/-- The recorded offset and length delimit exactly line `k` of the joined text. -/
theorem lineInfo_exact {α} (sep : α) (lines : List (List α)) (k : Nat) (h1 : 1 ≤ k) (h2 : k ≤ lines.length) :
    slice (joinLines sep lines) (lineInfo lines k).1 (lineInfo lines k).2 = lines.getD (k - 1) [] := by
  obtain ⟨rest, hr⟩ := drop_offset sep lines (k - 1) (by omega)
  simp only [lineInfo, h1, h2, and_self, if_true, slice, hr, List.take_left']

/-- A line number beyond the text gives the empty reference (0, 0). -/
theorem lineInfo_missing {α} (lines : List (List α)) (k : Nat) (h : k = 0 ∨ lines.length < k) :
    lineInfo lines k = (0, 0) := by
  unfold lineInfo; split
  · omega
  · rfl

/-- `to_index` is interning into `REFS` -/
theorem intern_eq (refs : List Ref) (r : Ref) : intern refs r = Lemmas.internAt refs r := rfl

theorem intern_get (refs : List Ref) (r : Ref) : (intern refs r).2[(intern refs r).1]? = some r :=
  Lemmas.internAt_get refs r

theorem intern_stable (refs : List Ref) (r : Ref) (i : Nat) (hi : i < refs.length) :
    (intern refs r).2[i]? = refs[i]? :=
  Lemmas.internAt_old refs r hi

/-- The table after a compilation holds what it held before and the references of this compilation,
nothing else. -/
theorem internAll_mem : ∀ (rs refs : List Ref) (x : Ref), x ∈ (internAll refs rs).2 ↔ x ∈ refs ∨ x ∈ rs
  | [], refs, x => by simp [internAll]
  | r :: rs, refs, x => by simp [internAll, internAll_mem rs, intern_eq, Lemmas.mem_internAt, or_assoc]

/-- **The table of a compilation is its own** (repaired `start_compilation`): numbered from the empty
table, `source_refs` holds only references of elements of this MIR — whatever was compiled before. -/
theorem internAll_own (rs : List Ref) : ∀ x ∈ (internAll [] rs).2, x ∈ rs := by
  intro x hx
  simpa using (internAll_mem rs [] x).mp hx

/-- … whereas a table that is kept from one compilation to the next carries every earlier entry
along (the behaviour before the repair: an earlier program's references in a later MIR). -/
theorem internAll_prefix : ∀ (rs refs : List Ref), refs <+: (internAll refs rs).2
  | [], _ => List.prefix_refl _
  | r :: rs, refs => (Lemmas.internAt_prefix refs r).trans (internAll_prefix rs _)

theorem internAll_nodup : ∀ (rs refs : List Ref), refs.Nodup → (internAll refs rs).2.Nodup
  | [], _, h => h
  | r :: rs, _, h => internAll_nodup rs _ (Lemmas.internAt_nodup r h)

theorem internAll_length : ∀ (rs refs : List Ref), (internAll refs rs).1.length = rs.length
  | [], _ => rfl
  | _ :: rs, _ => congrArg (· + 1) (internAll_length rs _)

/-- Every element's index resolves, in the final table, to the element's own reference. -/
theorem internAll_resolves : ∀ (rs refs : List Ref) (k : Nat) (h : k < rs.length),
    (internAll refs rs).2[(internAll refs rs).1[k]'(by rw [internAll_length]; exact h)]? = some rs[k]
  | r :: rs, refs, 0, _ => by
    have hlt := (List.getElem?_eq_some_iff.mp (intern_get refs r)).1
    simp only [internAll, List.getElem_cons_zero]
    rw [List.prefix_iff_getElem?.mp (internAll_prefix rs _) _ hlt, ← List.getElem?_eq_getElem hlt, intern_get]
  | r :: rs, refs, k + 1, h => internAll_resolves rs _ k (Nat.lt_of_succ_lt_succ h)

/-- The embedded files are exactly the files the table names (with the text recorded for them). -/
theorem sourcesOf_mem (texts : List (String × String)) (table : List Ref) (ft : String × String) :
    ft ∈ sourcesOf texts table ↔ ft ∈ texts ∧ ∃ r ∈ table, r.file = ft.1 := by
  simp [sourcesOf, List.mem_filter]

/-- A file that only an earlier compilation referred to is not embedded in a later MIR. -/
theorem sourcesOf_own (texts : List (String × String)) (rs : List Ref) (ft : String × String)
    (h : ft ∈ sourcesOf texts (internAll [] rs).2) : ∃ r ∈ rs, r.file = ft.1 := by
  obtain ⟨_, r, hr, hf⟩ := (sourcesOf_mem _ _ _).mp h
  exact ⟨r, internAll_own rs r hr, hf⟩

example : internAll [] [⟨3, 10, "a.py", 4⟩, ⟨5, 20, "a.py", 2⟩, ⟨3, 10, "a.py", 4⟩] =
    ([0, 1, 0], [⟨3, 10, "a.py", 4⟩, ⟨5, 20, "a.py", 2⟩]) := by decide

/-- The frame walk never returns a DSL frame when a user frame exists, and returns the innermost one. -/
theorem resolve_user : ∀ (stack : List Frame) (pre : List Frame) (u : Frame) (post : List Frame),
    stack = pre ++ u :: post → (∀ f ∈ pre, f.isDsl = true) → u.isDsl = false → resolve stack = some u := by
  intro stack pre u post h hpre hu
  subst h
  induction pre with
  | nil => cases post <;> simp [resolve, hu]
  | cons p ps ih =>
    have ih := ih fun f hf => hpre f (List.mem_cons_of_mem _ hf)
    have hp := hpre p List.mem_cons_self
    cases ps <;> simpa [resolve, hp] using ih

/-- T4: every entry point of the catalogue is attributed to the user's file, line and text. -/
theorem frames_user : frameTable.all (fun r => r.2.1 && r.2.2.1 && r.2.2.2) = true := by decide +kernel

/-- the catalogue reaches every syntactic `back_frame()` call site of the package -/
theorem call_sites_covered : unreachedCallSites = [] := by decide +kernel

example : lineInfo ["ab".toList, "cde".toList, "f".toList] 3 = (7, 1) := by decide

end NadaVerif.C19
