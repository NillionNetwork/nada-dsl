/-
C05 — every type in the MIR is well formed and consistent along every edge.

* `toMir_complete`: for every (arbitrarily nested) DSL value whose array sizes are positive and which
  contains no TypeVar, `to_mir()` succeeds only with a complete Nada type — by mutual structural
  induction over values, element types and member lists.
* scalar edges: the recorded type name of every scalar operation is the name of the ruled type
  (regenerated table, `C02.scalarTable_ok`) and the closed form used by the graph layer equals the
  table (`scalarTable_eq_model`).
* collection edges: `C12.zip_mir_type`, `unzip_mir_type`, `map_type`, `arrayNew_type`.
* outputs carry the type of the operation they name (`output_type_is_op_type`).
* **whole programs** (`trace_edges_consistent`): after any command list — any size, any nesting of collections and
  function bodies, accepted and rejected commands alike — in which no wrapper of an `Input` is used after the input
  record was re-typed (`Edge.cleanRunB`, the exact run-time form of hypothesis `NoRewrap`, finding F-C03-2), every visible
  record of the trace store is edge-consistent (`Edge.edgeOK`, the clause-by-clause twin of the Python oracle `c05`);
  emitted tables consist of store records (`C09.entries_are_store_records`), so this is every edge of every MIR.
  Invariant proof over the code of `exec` (Hoare triples generated by `mvcgen`, `Lemmas/Typed.lean`, one per command).
  `rewrap_breaks_edges`: the hypothesis is necessary (one `Input` wrapped public, used, then wrapped secret).
-/
import NadaVerif.Spec.C05
import NadaVerif.Props.C02
import NadaVerif.Lemmas.Tables
import NadaVerif.Props.C12   -- the collection edges listed above; the C05 check reads them through this module
import NadaVerif.Lemmas.TypedRun

namespace NadaVerif.C05
open NadaVerif NadaVerif.Generated

theorem mirName_complete (t : STy) : scalarNames.contains t.mirName = true := by
  obtain ⟨m, b⟩ := t; cases m <;> cases b <;> decide

/-- an array of a complete element type with a positive size is complete, whichever of the two ways its size is written -/
theorem complete_array {inner : MTy} {n : Option Int} (hi : complete false inner = true)
    (hn : (match n with | some v => decide (0 < v) | none => false) = true) :
    complete false (.array inner (sizeOfArray n)) = true ∧ complete false (.array inner (sizeOfArrayType n)) = true := by
  cases n with
  | none => cases hn
  | some v =>
    have hv : 0 < v := by simpa using hn
    have hne : v ≠ 0 := by omega
    simp [complete, hi, sizeOfArray, sizeOfArrayType, hne, hv]

theorem sized_of_sizedInst {e : Elem} (h : e.sizedInst = true) : e.sized = true := by
  cases e <;> first | exact h | cases h

mutual
theorem toMir_complete : ∀ (v : Val) (t : MTy), v.sized = true → v.toMir = .ok t → complete false t = true
  | .scalar s _ _, t, _, h => by cases h; simpa [complete] using mirName_complete s
  | .array e n _, t, hs, h => by
      simp only [Val.sized, Bool.and_eq_true] at hs
      obtain ⟨inner, hin, ht⟩ := Lemmas.bind_eq_ok.1 h
      cases ht
      exact (complete_array (innerType_complete e inner hs.1 hin) hs.2).1
  | .tuple l r _, t, hs, h => by
      simp only [Val.sized, Bool.and_eq_true] at hs
      obtain ⟨lt, hl, h⟩ := Lemmas.bind_eq_ok.1 h
      obtain ⟨rt, hr, h⟩ := Lemmas.bind_eq_ok.1 h
      cases h
      simp [complete, innerType_complete l lt hs.1 (Lemmas.sideType_eq_innerType _ _ hl),
        innerType_complete r rt hs.2 (Lemmas.sideType_eq_innerType _ _ hr)]
  | .ntuple vs _, t, hs, h => by
      obtain ⟨ts, hts, h⟩ := Lemmas.bind_eq_ok.1 h
      cases h
      simpa [complete] using memberTypes_complete vs ts hs hts
  | .object fs _, t, hs, h => by
      obtain ⟨ts, hts, h⟩ := Lemmas.bind_eq_ok.1 h
      cases h
      simpa [complete] using fieldTypes_complete fs ts hs hts
theorem innerType_complete : ∀ (e : Elem) (t : MTy), e.sized = true → e.innerType = .ok t → complete false t = true
  | .typeVar, _, hs, _ => by cases hs
  | .cls s, t, _, h => by cases h; simpa [complete] using mirName_complete s
  | .inst v, t, hs, h => toMir_complete v t hs h
  | .arrayType e n, t, hs, h => by
      simp only [Elem.sized, Bool.and_eq_true] at hs
      obtain ⟨inner, hin, ht⟩ := Lemmas.bind_eq_ok.1 h
      cases ht
      have hi := innerType_complete e inner (sized_of_sizedInst hs.1) (Lemmas.sideType_eq_innerType _ _ (Lemmas.asInstance_eq_sideType _ _ hin))
      exact (complete_array hi hs.2).2
theorem memberTypes_complete : ∀ (vs : Vals) (ts : MTys), vs.sized = true → vs.memberTypes = .ok ts → completeList false ts = true
  | .nil, ts, _, h => by cases h; rfl
  | .cons v vs, ts, hs, h => by
      simp only [Vals.sized, Bool.and_eq_true] at hs
      obtain ⟨t, ht, h⟩ := Lemmas.bind_eq_ok.1 h
      obtain ⟨ts', hts, h⟩ := Lemmas.bind_eq_ok.1 h
      cases h
      simp [completeList, toMir_complete v t hs.1 ht, memberTypes_complete vs ts' hs.2 hts]
theorem fieldTypes_complete : ∀ (fs : VFields) (ts : MFields), fs.sized = true → fs.memberTypes = .ok ts → completeFields false ts = true
  | .nil, ts, _, h => by cases h; rfl
  | .cons k v fs, ts, hs, h => by
      simp only [VFields.sized, Bool.and_eq_true] at hs
      obtain ⟨t, ht, h⟩ := Lemmas.bind_eq_ok.1 h
      obtain ⟨ts', hts, h⟩ := Lemmas.bind_eq_ok.1 h
      cases h
      simp [completeFields, toMir_complete v t hs.1 ht, fieldTypes_complete fs ts' hs.2 hts]
end

theorem sideType_complete : ∀ (e : Elem) (t : MTy), e.sized = true → e.sideType = .ok t → complete false t = true :=
  fun e t hs h => innerType_complete e t hs (Lemmas.sideType_eq_innerType _ _ h)
theorem asInstance_complete : ∀ (e : Elem) (t : MTy), e.sizedInst = true → e.asInstanceToMir = .ok t → complete false t = true :=
  fun e t hs h => innerType_complete e t (sized_of_sizedInst hs) (Lemmas.sideType_eq_innerType _ _ (Lemmas.asInstance_eq_sideType _ _ h))

/-- Model tie of the scalar edges: the closed form `typeBin …` the graph layer types scalar
operations with equals the table regenerated from the running classes on every cell. -/
theorem scalarTable_eq_model :
    scalarTables.all (·.all fun r => C02.eraseOut r.2.2 = some (C02.modelOut r.1 r.2.1)) = true :=
  C02.scalarTable_eq_model

/-- Each output carries the type recorded for the operation it names. -/
theorem output_type_is_op_type (st : St) :
    ∀ (outs : List OutDecl) (table functions : Spec.Table) (mouts : List MirOutput) (acc : CAcc)
      (table' functions' : Spec.Table) (mouts' : List MirOutput) (acc' : CAcc),
    compileOutputs st outs table functions mouts acc = .ok (table', functions', mouts', acc') →
    (∀ o ∈ mouts, ∃ op, st.lookup o.opId = some op ∧ o.ty = op.ty) →
    ∀ o ∈ mouts', ∃ op, st.lookup o.opId = some op ∧ o.ty = op.ty := by
  intro outs table functions mouts acc table' functions' mouts' acc' h ho
  refine Lemmas.compileOutputs_inv (fun _ _ _ mo _ => ∀ o ∈ mo, ∃ op, st.lookup o.opId = some op ∧ o.ty = op.ty) ?_ h ho
  rintro o _ _ _ _ _ _ _ _ op - hop ho
  exact Lemmas.forall_mem_snoc ho ⟨op, hop, rfl⟩

/-- **Edge consistency of whole programs.** -/
theorem trace_edges_consistent (cs : List Cmd) (h : Edge.cleanRunB {} cs = true) :
    Edge.storeEdgesOK (runCmds {} cs).1.st = true :=
  (Lemmas.storeEdgesOK_iff _).2 (Lemmas.trace_edges cs h)

/-- every entry of every emitted table is then edge-consistent with respect to the store it came from -/
theorem compile_edges_consistent (cs : List Cmd) (h : Edge.cleanRunB {} cs = true) (outs : List OutDecl) (m : MirProg)
    (hc : compile (runCmds {} cs).1.st outs = .ok m) :
    (∀ e ∈ m.operations, Edge.edgeOK (Edge.tyAtS (runCmds {} cs).1.st) (Edge.fnTyS (runCmds {} cs).1.st) e.2 = true) ∧
    (∀ f ∈ m.functions, ∀ e ∈ f.ops, Edge.edgeOK (Edge.tyAtS (runCmds {} cs).1.st) (Edge.fnTyS (runCmds {} cs).1.st) e.2 = true) := by
  have hE := Lemmas.trace_edges cs h
  have g := Lemmas.compile_walk hc
  exact ⟨fun e he => hE e.1 e.2 (g.prog.recs e he), fun f hf e he => hE e.1 e.2 ((g.fns f hf).walk.recs e he)⟩

/-- a program with scalar operations, a tuple, an n-tuple with a literal member, an accessor, an input array built with the
array-input constructor `Array(T(Input), size)`, `zip` / `unzip`, and a mapped function with a literal in its body: the hypothesis holds -/
def demo : List Cmd :=
  [.party "P", .inputObj "a" "" 0, .wrap ⟨.sec, .int⟩ 1, .inputObj "b" "" 0, .wrap ⟨.pub, .int⟩ 3,
   .bin .add 2 4, .lit .int (.int 7), .bin .mul 5 6, .ntupleNew [7, 6, 4], .ntupleGet 8 (-2), .ntupleGet 8 0,
   .inputObj "arr" "" 0, .wrap ⟨.sec, .int⟩ 11, .arrayOf 12 (some 3), .zip 13 13, .unzip 14,
   .beginFn "f" [("x", .scalar ⟨.sec, .int⟩)], .bin .add 16 6, .endFn 17 ⟨.sec, .int⟩, .map 13 18,
   .bin .lt 2 4, .ifElse 20 2 4]
example : Edge.cleanRunB {} demo = true ∧ (runCmds {} demo).2.all (· == none) = true := by decide +kernel

/-- the hypothesis is necessary: one `Input` wrapped as public, used in an addition, then wrapped as secret -/
theorem rewrap_breaks_edges :
    let cs : List Cmd := [.party "P", .inputObj "x" "" 0, .wrap ⟨.pub, .int⟩ 1, .bin .add 2 2, .wrap ⟨.sec, .int⟩ 1]
    Edge.cleanRunB {} cs = false ∧ Edge.storeEdgesOK (runCmds {} cs).1.st = false := by decide +kernel

example : (Val.array (.inst (.tuple (.cls ⟨.sec, .int⟩) (.inst (.scalar ⟨.pub, .bool⟩ none none)) none)) (some 3) (some 7)).sized = true := by decide

end NadaVerif.C05
