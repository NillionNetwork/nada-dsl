/-
C11 — Nada functions keep their signature, their bindings and their restrictions.
Theorems about `exec` for all register files and states, plus the regenerated store/AST schemas.
-/
import NadaVerif.Props.C04
import NadaVerif.Props.C12   -- `C12.map_type` (a `map` applies a one-parameter function); the C11 check reads it through this module
import NadaVerif.Spec.Schema
import NadaVerif.Props.C01

namespace NadaVerif.C11
open NadaVerif NadaVerif.Spec NadaVerif.Generated

variable (regs : List RVal) (frames : List Frame) (s : St)

/-- T6∘T7: what the program wrote reaches the MIR key it belongs to (function → `fn`/`function_id`,
call arguments → `args` in call order, parameter name → `refers_to`, …). -/
theorem schema_roundtrip :
    ((storeSchema.map fun w => (w.1, roundtrip w)) == expectedRoundtrip) = true := C04.schema_roundtrip

/-- every `store_in_ast` is straight-line code (one sentinel evaluation determines the mapping) -/
theorem store_straight_line : storeSchema.all (fun w => w.2.2.2) = true := by decide +kernel

/-- **An accepted call, any number of arguments** (`NadaFunction.__call__`): the positional arguments bind the first
parameters; every remaining parameter is bound, in declaration order, by the keyword of its name (`kwRegs`); no keyword is
left over.  The call then records the function and the ids of the arguments **in parameter order**. -/
theorem call_records {f : Reg} {args : List Reg} {kws : List (String × Reg)} {fid : Id} {ret : STy} {names : List String}
    {kwRegs : List Reg} {vs : List Val} {ids : List Id}
    (hf : regs[f]? = some (.fn fid ret names)) (hlen : args.length ≤ names.length)
    (hkw : (names.drop args.length).mapM (fun n => (kws.find? (·.1 == n)).map (·.2)) = some kwRegs)
    (hused : kws.any (fun kv => !(names.drop args.length).contains kv.1) = false)
    (hvs : Lemmas.All2 (fun r v => regs[r]? = some (.val v)) (args ++ kwRegs) vs)
    (hids : Lemmas.All2 (fun v c => v.child = some c) vs ids) :
    (exec regs frames (.call f args kws)).run.run s =
      (.ok ([.val (.scalar ret (some (s.counter + 1)) none)], frames),
       { s with counter := s.counter + 1,
                ops := (s.counter + 1, .call ids fid (.scalar ret.mirName)) :: s.ops }) := by
  have hv := mapM_run (s := s) (fun r v h => by rw [getVal_run, h]) hvs
  have hc := mapM_run (s := { s with counter := s.counter + 1 }) (fun v c h => by rw [childOf_run, h]) hids
  simp_exec [hf, Nat.not_lt.2 hlen, hkw, hused, hv, childIds, hc]

/-- A call records the function that was passed and the arguments' ids in call order. -/
theorem call_binding (f x y : Reg) (fid : Id) (ret : STy) (px py : String) (vx vy : Val) (cx cy : Id)
    (hf : regs[f]? = some (.fn fid ret [px, py])) (hx : regs[x]? = some (.val vx)) (hy : regs[y]? = some (.val vy))
    (hcx : vx.child = some cx) (hcy : vy.child = some cy) :
    (exec regs frames (.call f [x, y])).run.run s =
      (.ok ([.val (.scalar ret (some (s.counter + 1)) none)], frames),
       { s with counter := s.counter + 1,
                ops := (s.counter + 1, .call [cx, cy] fid (.scalar ret.mirName)) :: s.ops }) :=
  call_records regs frames s hf (Nat.le_refl 2) (kwRegs := []) (vs := [vx, vy]) rfl rfl (by simp [hx, hy]) (by simp [hcx, hcy])

/-- Keyword arguments are bound to the declared parameters **by name, in declaration order**,
whatever order they are written in: `f(py=y, px=x)` records `[x, y]`. -/
theorem call_keyword_binding (f x y : Reg) (fid : Id) (ret : STy) (px py : String) (hne : px ≠ py)
    (vx vy : Val) (cx cy : Id)
    (hf : regs[f]? = some (.fn fid ret [px, py])) (hx : regs[x]? = some (.val vx)) (hy : regs[y]? = some (.val vy))
    (hcx : vx.child = some cx) (hcy : vy.child = some cy) :
    (exec regs frames (.call f [] [(py, y), (px, x)])).run.run s =
      (.ok ([.val (.scalar ret (some (s.counter + 1)) none)], frames),
       { s with counter := s.counter + 1,
                ops := (s.counter + 1, .call [cx, cy] fid (.scalar ret.mirName)) :: s.ops }) :=
  call_records regs frames s hf (Nat.zero_le 2) (kwRegs := [x, y]) (vs := [vx, vy])
    (by simp [List.find?, beq_eq_false_iff_ne.2 hne.symm]) (by simp) (by simp [hx, hy]) (by simp [hcx, hcy])

/-- … and a positional argument followed by the remaining parameter by keyword. -/
theorem call_mixed_binding (f x y : Reg) (fid : Id) (ret : STy) (px py : String)
    (vx vy : Val) (cx cy : Id)
    (hf : regs[f]? = some (.fn fid ret [px, py])) (hx : regs[x]? = some (.val vx)) (hy : regs[y]? = some (.val vy))
    (hcx : vx.child = some cx) (hcy : vy.child = some cy) :
    (exec regs frames (.call f [x] [(py, y)])).run.run s =
      (.ok ([.val (.scalar ret (some (s.counter + 1)) none)], frames),
       { s with counter := s.counter + 1,
                ops := (s.counter + 1, .call [cx, cy] fid (.scalar ret.mirName)) :: s.ops }) :=
  call_records regs frames s hf (Nat.le_succ 1) (kwRegs := [y]) (vs := [vx, vy])
    (by simp [List.find?]) (by simp) (by simp [hx, hy]) (by simp [hcx, hcy])

/-- A keyword that names no remaining parameter (unknown, or already given positionally) is rejected. -/
theorem call_unexpected_keyword_rejected (f x : Reg) (fid : Id) (ret : STy) (px bad : String)
    (hf : regs[f]? = some (.fn fid ret [px])) :
    (exec regs frames (.call f [x] [(bad, x)])).run.run s = (.error .T, s) := by
  simp_exec [hf, List.mapM_nil]
  -- no parameter remains after the positional one, so the keyword is left over: the test `kws.any …` is true
  simp
  rfl

/-- A call with the wrong number of arguments is rejected and changes nothing. -/
theorem call_arity_rejected (f : Reg) (args : List Reg) (fid : Id) (ret : STy) (names : List String)
    (hf : regs[f]? = some (.fn fid ret names)) (hne : args.length ≠ names.length) :
    (exec regs frames (.call f args)).run.run s = (.error .T, s) := by
  by_cases hgt : args.length > names.length
  · simp_exec [hf, hgt]
  · -- too few positional arguments and no keywords: the first missing parameter is not found
    obtain ⟨n, rest, hd⟩ := List.exists_cons_of_ne_nil (l := names.drop args.length)
      (by rw [ne_eq, List.drop_eq_nil_iff]; omega)
    simp_exec [hf, hgt, hd, List.mapM_cons]
    -- `find?` in the empty keyword list is `none`, so the `Option` `mapM` over `n :: rest` is `none`
    simp
    rfl

/-- `reduce` is bound to the function passed, the array and the initial value. -/
theorem reduce_binding (a f i : Reg) (e : Elem) (n : Option Int) (ca fid ci : Id) (ret : STy) (np : List String) (vi : Val)
    (ha : regs[a]? = some (.val (.array e n (some ca)))) (hf : regs[f]? = some (.fn fid ret np))
    (hi : regs[i]? = some (.val vi)) (hci : vi.child = some ci) :
    (exec regs frames (.reduce a f i)).run.run s =
      (.ok ([.val (.scalar ret (some (s.counter + 1)) none)], frames),
       { s with counter := s.counter + 1,
                ops := (s.counter + 1, .reduce ca fid ci (.scalar ret.mirName)) :: s.ops }) := by
  simp_exec [ha, hf, hi, hci]

/-- A function whose declared return type is a literal type is rejected (nothing is stored). -/
theorem literal_return_rejected (fr : Frame) (rest : List Frame) (ret : Reg) (v : Val) (ann : STy)
    (hr : regs[ret]? = some (.val v)) (hlit : ann.mode = .const) :
    (exec regs (fr :: rest) (.endFn ret ann)).run.run s = (.error .notAllowed, s) := by
  simp_exec [hr, hlit]

/-- A function all of whose parameters have literal types is rejected (nothing is stored). -/
theorem all_literal_params_rejected (fr : Frame) (rest : List Frame) (ret : Reg) (v : Val) (ann : STy)
    (hr : regs[ret]? = some (.val v)) (hnl : ann.mode ≠ .const)
    (hall : fr.params.all (fun p => isLiteralScalar p.2) = true) :
    (exec regs (fr :: rest) (.endFn ret ann)).run.run s = (.error .notAllowed, s) := by
  simp_exec [hr, hnl, hall]

/-- An accepted definition stores the function under its own id with its name, its parameter ids in
declaration order, the body's result as return operation, and the declared return type. -/
theorem fn_record (fr : Frame) (rest : List Frame) (ret : Reg) (ann : STy) (c : Id) (l : Option LitVal)
    (hr : regs[ret]? = some (.val (.scalar ann (some c) l))) (hnl : ann.mode ≠ .const)
    (hall : fr.params.all (fun p => isLiteralScalar p.2) = false) :
    (exec regs (fr :: rest) (.endFn ret ann)).run.run s =
      (.ok ([.fn fr.fid ann fr.pnames], rest),
       { s with ops := (fr.fid, .function fr.name (fr.params.map (·.1)) c (.scalar ann.mirName)) :: s.ops }) := by
  simp_exec [hr, hnl, hall]

/-- Each function is emitted exactly once, however many map / reduce / call sites (in the program or in other
function bodies) use it, and every site is bound to an emitted function — for every store and output list. -/
theorem fn_emitted_once (st : St) (outs : List OutDecl) (m : MirProg) (h : compile st outs = .ok m) :
    (m.functions.map (·.id)).Nodup ∧
    ∀ t ∈ allTables m, ∀ e ∈ t, ∀ f, e.2.fnRef = some f → count f (m.functions.map (·.id)) = 1 :=
  ⟨(Lemmas.compile_fn_cov h).1, C01.compile_fn_refs_resolve st outs m h⟩

end NadaVerif.C11
