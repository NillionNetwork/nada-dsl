/-
C01 — emitted MIR is referentially closed, correctly scoped and acyclic.

(1) over the regenerated AST schema (T6): every operand key that `to_mir` exports is a child the
    traversal follows, and the schema equals the one the model implements;
(2) for **every** store and output list, every table the compile model emits is closed under
    operand references, files each id once, consists of store entries, and contains the outputs'
    / functions' designated operations (`Lemmas/Tables.lean`, induction over the traversal);
(3) for stores in which operand ids are smaller than the referring id, the tables are acyclic;
(4) **every** trace establishes such a store: `trace_storeWF` (`Lemmas/TraceInv.lean`, a Hoare-logic
    proof over the code of `exec`, all 28 commands, accepted or rejected), hence
    `trace_compile_acyclic`: whatever program was traced, every MIR compiled from it is acyclic.
-/
import NadaVerif.Spec.Schema
import NadaVerif.Lemmas.Tables
import NadaVerif.Lemmas.TraceInv
import NadaVerif.Lemmas.FnExact
import NadaVerif.Lemmas.AccExact
import NadaVerif.Lemmas.NoMissing

namespace NadaVerif.C01
open NadaVerif NadaVerif.Spec NadaVerif.Lemmas NadaVerif.Generated

/-- T6: no class exports an operand reference that `child_operations()` omits. -/
theorem schema_refs_subset_children : astSchema.all rowRefsSubsetChildren = true := by decide +kernel

/-- T6 model tie: the regenerated schema is the one `AstOp.children` / `opJson` implement. -/
theorem astSchema_eq_model : (astSchema == modelAstSchema) = true := by decide +kernel

/-- Operand references of every emitted table resolve in that table; no id is filed twice. -/
theorem compile_tables_closed (st : St) (outs : List OutDecl) (m : MirProg)
    (h : compile st outs = .ok m) :
    ∀ t ∈ allTables m, tableClosed t = true ∧ (keys t).Nodup :=
  compile_allTables h fun _ _ w => ⟨w.closed, w.nodup⟩

/-- Every output designates an operation of the program table, in output order, and every
function's return operation is in the function's own table. -/
theorem compile_outputs_resolve (st : St) (outs : List OutDecl) (m : MirProg)
    (h : compile st outs = .ok m) :
    m.outputs.all (fun o => Table.has m.operations o.opId) = true ∧
    m.functions.all (fun f => Table.has f.ops f.returnOp) = true ∧
    m.outputs.map (·.opId) = outs.map (·.root) := by
  have g := compile_walk h
  simp only [List.all_eq_true, has_iff]
  exact ⟨g.outputs, fun f hfm => (g.fns f hfm).ret, g.order⟩

/-- Every emitted entry is the store's record for its id ("filed under its own id"). -/
theorem compile_entries_from_store (st : St) (outs : List OutDecl) (m : MirProg)
    (h : compile st outs = .ok m) :
    ∀ t ∈ allTables m, ∀ e ∈ t, st.lookup e.1 = some e.2 :=
  compile_allTables h fun _ _ w => w.recs

/-- Acyclicity: in a store whose operand ids are smaller than the referring ids (which every trace
establishes: an operation can only mention values that already exist), following operand
references strictly decreases the id, so it never returns to the start. -/
theorem compile_acyclic (st : St) (outs : List OutDecl) (m : MirProg)
    (hwf : storeWF st = true) (h : compile st outs = .ok m) : acyclic m = true := by
  simp only [acyclic, List.all_eq_true, decide_eq_true_eq]
  exact fun t ht e he =>
    (storeWF_iff st).1 hwf e (lookup_mem st e.1 e.2 (compile_entries_from_store st outs m h t ht e he))

/-- Every `fn` / `function_id` reference — in the program table and in every function's own table — names
**exactly one** element of `functions` (induction over the traversal, the per-output merge and the function
worklist; any store, any outputs). -/
theorem compile_fn_refs_resolve (st : St) (outs : List OutDecl) (m : MirProg) (h : compile st outs = .ok m) :
    ∀ t ∈ allTables m, ∀ e ∈ t, ∀ f, e.2.fnRef = some f → count f (m.functions.map (·.id)) = 1 :=
  let ⟨hn, hc⟩ := compile_fn_cov h; fun t ht e he f hf => count_eq_one_of_nodup hn (hc t ht e he f hf)

/-- Every `InputReference` of every table resolves to **exactly one** entry of `inputs` (by name), every
`LiteralReference` to exactly one entry of `literals` — for every store and output list (the accumulator invariant of
`Lemmas/AccExact.lean`: sorted party buckets, names listed once, entries are store records). -/
theorem compile_input_literal_refs_resolve (st : St) (outs : List OutDecl) (m : MirProg) (h : compile st outs = .ok m) :
    ∀ t ∈ allTables m, ∀ e ∈ t,
      (∀ n p d ty, e.2 = .input n p d ty → count n (m.inputs.map (·.name)) = 1) ∧
      (∀ v i ty, e.2 = .literal v i ty → count (toString i) (m.literals.map (·.name)) = 1) := by
  intro t ht e he
  have hc := (compile_acc h).refs t ht e he
  exact ⟨fun n p d ty heq => (hc.1 n p d ty heq).2, hc.2⟩

/-- **Whole pipeline**: trace any command list (any program, any rejected commands in between), compile any
output list from the resulting store — if the compilation succeeds, the MIR is acyclic. -/
theorem trace_compile_acyclic (cs : List Cmd) (outs : List OutDecl) (m : MirProg)
    (h : compile (runCmds {} cs).1.st outs = .ok m) : acyclic m = true :=
  compile_acyclic _ outs m (trace_storeWF cs) h

/-- … and so is every MIR compiled at any later point of a history that continues the trace. -/
theorem history_compile_acyclic (cs more : List Cmd) (outs : List OutDecl) (m : MirProg)
    (h : compile (runCmds (runCmds {} cs).1 more).1.st outs = .ok m) : acyclic m = true :=
  compile_acyclic _ outs m ((storeWF_iff _).2 (runCmds_ok more _ (trace_ok cs)).wf) h

/-- an output list as the compiler entry point builds it: each output names the operation of a value some
register holds (`output.child.child.id`) -/
def OutsFromRegs (regs : List RVal) (outs : List OutDecl) : Prop :=
  ∀ o ∈ outs, ∃ v, RVal.val v ∈ regs ∧ v.child = some o.root

/-- from a machine in order: the store is closed, and what the registers hold is stored -/
theorem machOK_compile_nk {m : Mach} (h : MachOK m) {outs : List OutDecl} (ho : OutsFromRegs m.regs outs) :
    compile m.st outs ≠ .error .key :=
  compile_nk (closed_of_stoL _ h.sto) outs fun o hm =>
    let ⟨v, hv, hc⟩ := ho o hm
    h.regsSto _ hv o.root (by simpa [RVal.sids] using child_mem_ids hc)

/-- **Nothing a traced program needs is missing**: trace any command list (accepted and rejected commands,
aborted function bodies), take as outputs any values the registers hold — none of the lookups of the
compilation (operands during the traversals, applied functions, parameters and return operations of emitted
functions, output roots) can miss; every id that is mentioned resolves in the store. -/
theorem trace_compile_no_missing (cs : List Cmd) (outs : List OutDecl)
    (ho : OutsFromRegs (runCmds {} cs).1.regs outs) : compile (runCmds {} cs).1.st outs ≠ .error .key :=
  machOK_compile_nk (trace_ok cs) ho

/-- … the same at any later point of a history that continues the trace (C08: nothing the later program needs
is missing, whatever was traced, compiled or failed before). -/
theorem history_compile_no_missing (cs more : List Cmd) (outs : List OutDecl)
    (ho : OutsFromRegs (runCmds (runCmds {} cs).1 more).1.regs outs) :
    compile (runCmds (runCmds {} cs).1 more).1.st outs ≠ .error .key :=
  machOK_compile_nk (runCmds_ok more _ (trace_ok cs)) ho

/-- every record of the traced store mentions only stored ids — operands, applied functions, a function's return
operation and its parameters -/
theorem trace_store_closed (cs : List Cmd) (k : Id) (op : AstOp) (h : (runCmds {} cs).1.st.lookup k = some op) :
    ∀ c ∈ op.mentions, ∃ o, (runCmds {} cs).1.st.lookup c = some o :=
  fun c hc => has_lookup _ c (closed_of_stoL _ (trace_ok cs).sto k op h c hc)

/-! Non-vacuity: a concrete store and compilation satisfying the hypotheses. -/
def exSt : St := St.mk 3
  [(3, .binary "Addition" 1 2 (.scalar "SecretInteger")),
   (2, .input "b" "P" "" (.scalar "SecretInteger")), (1, .input "a" "P" "" (.scalar "SecretInteger"))] []
example : storeWF exSt = true ∧
    (compile exSt [OutDecl.mk 3 "o" "P"]).toOption.isSome = true := by decide
/-- a traced program (two inputs, a sum, the sum as output) meeting `OutsFromRegs` -/
def exCmds : List Cmd := [.party "P", .inputObj "a" "" 0, .wrap ⟨.sec, .int⟩ 1, .inputObj "b" "" 0, .wrap ⟨.sec, .int⟩ 3, .bin .add 2 4]
example : (runCmds {} exCmds).1.regs[5]? = some (.val (.scalar ⟨.sec, .int⟩ (some 3) none)) ∧
    (compile (runCmds {} exCmds).1.st [OutDecl.mk 3 "o" "P"]).toOption.isSome = true := by decide

end NadaVerif.C01
