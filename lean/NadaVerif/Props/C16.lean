/-
C16 — the auditor is total: always terminates with a report, runs no audited code (partial).

The fragments of the checker whose termination / exception-freedom is not obvious are modelled as
total Lean functions (`Audit/Strict.lean`; Lean's termination checker accepts them, their result
types have no "raised" or "executed" outcome) and the facts the repaired Python relies on are
proved.  The rest of `types` is structural recursion over the `ast` tree with dictionary lookups;
it — together with `ast.parse`, `parsial`, `asttokens`, `richreports` — is exercised by the K6 run
(every `ast` node class, layout variation, corrupted lines) under a watchdog and an audit hook.
-/
import NadaVerif.Audit.Strict

namespace NadaVerif.C16
open NadaVerif.Audit

/-- a resolved annotation is a type term, never an error value -/
theorem typesEval_hasName (a : Ann) (t : Ty) : typesEval a = some t → t.hasName = true := by
  fun_cases typesEval a <;> simp only [Option.map_eq_some_iff, Option.some.injEq, reduceCtorEq, false_imp_iff]
  · rintro rfl; rfl
  · rintro rfl; rfl
  · rintro ⟨_, _, rfl⟩; rfl

/-- Resolving an annotation yields a type or a plain failure — for every annotation expression —
and a successful result is built from the fixed table of type names only (nothing is executed). -/
theorem typesEval_total_no_exec (a : Ann) :
    typesEval a = none ∨ ∃ t, typesEval a = some t ∧ t.hasName = true := by
  cases h : typesEval a with
  | none => exact .inl rfl
  | some t => exact .inr ⟨t, rfl, typesEval_hasName a t h⟩

theorem subscriptLoop_le (t : Target) (d : Nat) : d ≤ (subscriptLoop t d).1 := by
  fun_induction subscriptLoop t d <;> omega

/-- The subscript loop terminates for every target (structural recursion) and, when it reports no
invalid index, it ends on something that is not an integer-indexed subscript of a variable or
subscript — in particular it cannot spin on `x.y[0] = …` / `f()[0] = …`. -/
theorem subscriptBase_terminates (t : Target) (d : Nat) :
    ∃ d' base bad, subscriptLoop t d = (d', base, bad) ∧ d ≤ d' :=
  ⟨_, _, _, rfl, subscriptLoop_le t d⟩

/-- Unification never fails on error values: it answers "does not unify". -/
theorem unify_total (a b : Ty) :
    (a.hasName = false ∨ b.hasName = false) → unify a b = none := by
  intro h
  have hn : ¬ (a = b ∧ a.noErr = true) := by
    rintro ⟨rfl, hne⟩
    cases a <;> simp_all [Ty.hasName, Ty.noErr]
  unfold unify
  rw [if_neg hn]
  rcases h with h | h <;> simp [h]

/-- The monomorphism tests are defined on every type term, error values included. -/
theorem monomorphic_total (r : Bool) : listMonomorphic (.err r) = false ∧ listDepth (.err r) = 0 ∧
    listMonomorphic .list = false ∧ listDepth (.listOf (.listOf (.base "int"))) = 2 := by
  simp [listMonomorphic, listDepth]

/-- The range normalisation stops (the line only ever increases towards the last line) and never
leaves the report: the resulting line is at most the number of lines when it started inside. -/
theorem normalise_total (lens : List Nat) :
    ∀ (fuel line col : Nat), line ≤ lens.length → (normaliseStart lens fuel line col).1 ≤ lens.length := by
  intro fuel
  induction fuel with
  | zero => intro line col h; exact h
  | succ n ih =>
    intro line col h
    simp only [normaliseStart]
    split
    · rename_i hc; exact ih (line + 1) 0 (by omega)
    · exact h

example : subscriptLoop (.subscript (.subscript .other true) true) 0 = (2, .subscript .other true, false) := by decide
example : typesEval (.subscript (.name "list") (.subscript (.name "list") (.name "int"))) = some (.listOf (.listOf (.base "int"))) := by decide

end NadaVerif.C16
