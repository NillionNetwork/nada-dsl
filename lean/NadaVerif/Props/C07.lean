/-
C07 — tracing is oblivious: program shape cannot depend on run-time data  (partial: CPython's
special-method dispatch is modelled in `Py/Protocol.lean`, not derived).

Over the class table regenerated by reflection from the running code (T3): for every non-literal
Nada value class — the six public/secret scalar classes, Array, Tuple, NTuple, Object, the Ecdsa
types, and any class a change adds — every construct that needs a truth value raises, every
comparison (with another Nada value, an int, None, a str, a list, an Array) raises or returns a
Nada value, never a Python value, and iterating an Array raises.
-/
import NadaVerif.Spec.C07

namespace NadaVerif.C07
open NadaVerif.Py NadaVerif.Generated

/-- Every lookup names its class, so it may go through the rows of that class alone. -/
theorem find?_class (t : ClassTable) (cls : String) (q : String × String × String × String × String → Prop)
    [DecidablePred q] :
    t.find? (fun r => r.1 = cls ∧ q r) = (t.filter (·.1 = cls)).find? (fun r => r.1 = cls ∧ q r) := by
  simp [List.find?_filter]

theorem slotBeh_eq : slotBeh = fun t cls => slotBeh (t.filter (·.1 = cls)) cls := by
  funext t cls slot other
  rw [slotBeh, slotBeh, find?_class]

theorem kindOf_eq : kindOf = fun t cls => kindOf (t.filter (·.1 = cls)) cls := by
  funext t cls
  rw [kindOf, kindOf, find?_class]

theorem hashOf_eq : hashOf = fun t cls => hashOf (t.filter (·.1 = cls)) cls := by
  funext t cls
  rw [hashOf, hashOf, find?_class, slotBeh_eq]
  simp only [List.filter_filter, Bool.and_self]

theorem nonliterals_oblivious : (nonLiteral classTable).all (classOblivious classTable) = true := by
  -- evaluated with every lookup sent through the rows of its class: the kernel computes the rows of a class once and keeps
  -- them, where in the table as it stands every lookup first walks past the rows of every earlier class (slow to check).
  -- The routes consult the table through `slotBeh`, `kindOf` and `hashOf` only.
  delta nonLiteral classOblivious cmpThenTruth containsOf nadaBoolTruth cmpOutcome truthOf
  rw [hashOf_eq, slotBeh_eq, kindOf_eq]
  decide +kernel

theorem array_iteration_raises : iterOf classTable "Array" = .raises := by decide +kernel

/-- neither do the other ways of walking over a sequence: `reversed(arr)`, `arr[i] for i in range(len(arr))` -/
theorem array_walks_raise :
    reversedOf classTable "Array" = .raises ∧ indexWalkOf classTable "Array" = .raises := by decide +kernel

/-- no Nada value class answers a membership test with a non-literal probe (`probe in record`, `probe in arr`, `probe in x`) -/
theorem membership_raises : (nonLiteral classTable).all (fun c => containsOf classTable c = .raises) = true := by
  have := nonliterals_oblivious
  simp only [List.all_eq_true, classOblivious, Bool.and_eq_true] at this ⊢
  exact fun c hc => (this c hc).1.2

/-- Sensitivity: a class that answers `in` from its recorded members (a `__contains__` returning a Python bool) is not oblivious. -/
example : containsOf [("X", "!kind", "", "compound", ""), ("X", "__contains__", "same", "X", "pybool")] "X" = .silent := by
  decide

/-- the table covers the value classes the properties talk about -/
theorem table_covers :
    ["PublicInteger", "PublicUnsignedInteger", "PublicBoolean", "SecretInteger", "SecretUnsignedInteger",
     "SecretBoolean", "Array", "Tuple", "NTuple", "Object"].all (fun c => (nonLiteral classTable).contains c) = true := by
  delta nonLiteral
  rw [kindOf_eq]
  decide +kernel

/-- the one allowed exception: a literal `Boolean` has a concrete truth value -/
theorem literal_bool_ok : truthOf classTable "Boolean" = .silent ∧ kindOf classTable "Boolean" = "literal" := by
  decide +kernel

/-- Non-vacuity / sensitivity: a class whose `__bool__` returns a Python bool is not oblivious. -/
example : classOblivious [("X", "!kind", "", "scalar", ""), ("X", "__bool__", "", "X", "pybool")] "X" = false := by
  decide

end NadaVerif.C07
